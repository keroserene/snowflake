import Snowflake.Base.TotalMap
/-
Registration accounting of the broker with *arbitrary* session ids (C04, "no ghost proxies").  Core-only.

The main broker LTS (`Model/Broker.lean`) identifies a poll with its session id, i.e. it assumes the ids of
concurrent polls pairwise distinct.  A proxy may legally poll again under an id that is still in use.  This
reduced model drops that assumption and keeps only what the clause "once all requests have completed the broker
holds no leftover registrations" needs:

  * polls are numbered requests `p : Nat`, each with an arbitrary session id `sid p`;
  * `add p`        – `AddSnowflake`: push on a heap, gauge `Inc`, `idToSnowflake[sid p] = p` (overwriting);
  * `timeout p`    – the poll's timeout branch finds it still queued: `heap.Remove`, gauge `Dec`,
                     `delete(idToSnowflake, sid p)`;
  * `pop p`        – a client's `matchSnowflake` pops it;
  * `cleanup p`    – the end of that client's `ClientOffers` (answered or timed out): gauge `Dec`,
                     `delete(idToSnowflake, sid p)`.

The statement sites are pinned to the source by the skeleton ties of `Tie/Broker.lean`
(`skel_AddSnowflake_tie`, `skel_Broker_tie`, `skel_ClientOffers_tie`).
-/
namespace Snowflake.BrokerReg

inductive Phase
  | fresh      -- not registered yet
  | queued     -- in a heap
  | popped     -- claimed by a client whose request is still running
  | done
deriving DecidableEq, Repr

structure St where
  phase : Nat → Phase
  map : Nat → Option Nat        -- session id → poll (idToSnowflake)
  gauge : Int                   -- snowflake_available_proxies, summed over its labels

def init : St := ⟨fun _ => .fresh, fun _ => none, 0⟩

inductive Ev
  | add (p : Nat) | timeout (p : Nat) | pop (p : Nat) | cleanup (p : Nat)
deriving DecidableEq, Repr

def setPhase (f : Nat → Phase) (p : Nat) (x : Phase) : Nat → Phase := fun q => if q = p then x else f q
def setMap (m : Nat → Option Nat) (s : Nat) (x : Option Nat) : Nat → Option Nat := fun t => if t = s then x else m t

/-- one step; `none` = the event is not enabled in this state -/
def step (sid : Nat → Nat) (s : St) : Ev → Option St
  | .add p => if s.phase p = .fresh then
      some ⟨setPhase s.phase p .queued, setMap s.map (sid p) (some p), s.gauge + 1⟩ else none
  | .timeout p => if s.phase p = .queued then
      some ⟨setPhase s.phase p .done, setMap s.map (sid p) none, s.gauge - 1⟩ else none
  | .pop p => if s.phase p = .queued then
      some ⟨setPhase s.phase p .popped, s.map, s.gauge⟩ else none
  | .cleanup p => if s.phase p = .popped then
      some ⟨setPhase s.phase p .done, setMap s.map (sid p) none, s.gauge - 1⟩ else none

def run (sid : Nat → Nat) : St → List Ev → Option St
  | s, [] => some s
  | s, e :: es => match step sid s e with
    | some s' => run sid s' es
    | none => none

def live (x : Phase) : Bool := x == .queued || x == .popped

/-- number of polls below `n` that hold a registration -/
def liveCount (f : Nat → Phase) : Nat → Nat
  | 0 => 0
  | n + 1 => liveCount f n + (if live (f n) then 1 else 0)

/-- the invariant: polls at or above `n` are fresh; the gauge counts the live polls; the id map only names live polls -/
structure Inv (sid : Nat → Nat) (s : St) (n : Nat) : Prop where
  fresh_above : ∀ p, n ≤ p → s.phase p = .fresh
  gauge_eq : s.gauge = (liveCount s.phase n : Int)
  map_live : ∀ t p, s.map t = some p → live (s.phase p) = true
  map_sid : ∀ t p, s.map t = some p → sid p = t

theorem liveCount_eq (f : Nat → Phase) (n : Nat) :
    liveCount f n = ((List.range n).filter fun p => live (f p)).length := by
  induction n with
  | zero => rfl
  | succ n ih =>
    rw [liveCount, ih, List.range_succ, List.filter_append, List.length_append, List.filter_cons]
    cases live (f n) <;> rfl

theorem liveCount_set (f : Nat → Phase) (p : Nat) (x : Phase) : ∀ n, p < n →
    (liveCount (setPhase f p x) n : Int) = liveCount f n - (if live (f p) then 1 else 0) + (if live x then 1 else 0) := by
  intro n hp
  -- only the summand of `p` changes
  have := TotalMap.count_upd (f := fun q => live (f q)) (g := fun q => live (setPhase f p x q))
    (List.nodup_range (n := n)) (fun q hq => congrArg live (if_neg hq)) (absurd (List.mem_range.mpr hp))
  rw [show setPhase f p x p = x from if_pos rfl] at this
  rw [liveCount_eq, liveCount_eq]
  revert this
  cases live (f p) <;> cases live x <;> simp <;> omega

end Snowflake.BrokerReg
