/-
Sequence-numbered reassembly — the abstract role of the reliability layer (KCP) in C01.  Core-only.

The writer cuts its byte stream into segments `segs[0], segs[1], …` and sends each segment, tagged with its
number, in a datagram — as often as it likes (retransmissions), over whatever carrier is attached.  The
receiver keeps the first copy of every number it sees and hands the reader the segments in order as far as
there is no gap.  Nothing here is specific to kcp-go's wire format: the datagram codec is a parameter
(`SegCodec` in `Props/C01.lean`).
-/
namespace Snowflake.Reasm

/-- receiver state: the segments got so far, by sequence number -/
abbrev Rx := Nat → Option (List UInt8)

def init : Rx := fun _ => none

/-- a datagram with segment number `i` and payload `p` arrives; a duplicate of a number already held is ignored -/
def recv (r : Rx) (i : Nat) (p : (List UInt8)) : Rx :=
  fun j => if j = i then (match r i with | some q => some q | none => some p) else r j

def run (r : Rx) : List (Nat × (List UInt8)) → Rx
  | [] => r
  | e :: es => run (recv r e.1 e.2) es

/-- What the receiver holds after `evs`: what it held, and for a number it did not hold the first copy to arrive. -/
theorem run_apply (evs : List (Nat × (List UInt8))) (r : Rx) (i : Nat) : run r evs i = (r i).or (evs.lookup i) := by
  induction evs generalizing r with
  | nil => simp [run]
  | cons e es ih =>
    rw [run, ih, recv, List.lookup_cons]
    by_cases h : i = e.1
    · subst h; cases r e.1 <;> simp
    · simp only [h, if_false, beq_false_of_ne h]

theorem run_append : ∀ (a b : List (Nat × (List UInt8))) (r : Rx), run r (a ++ b) = run (run r a) b := by
  intro a b r
  funext i
  simp only [run_apply, List.lookup_append, Option.or_assoc]

/-- the bytes handed to the reader from segment `i` on: in order, as long as there is no gap (`f` bounds the scan) -/
def deliverFrom (r : Rx) : Nat → Nat → (List UInt8)
  | _, 0 => []
  | i, f + 1 => match r i with
    | some p => p ++ deliverFrom r (i + 1) f
    | none => []

def delivered (r : Rx) (n : Nat) : (List UInt8) := deliverFrom r 0 n

/-- every segment the receiver holds is the writer's segment of that number -/
def Sound (segs : List (List UInt8)) (r : Rx) : Prop := ∀ i p, r i = some p → segs[i]? = some p

/-- every arrival carries the writer's segment of the number it is tagged with -/
def Honest (segs : List (List UInt8)) (evs : List (Nat × (List UInt8))) : Prop := ∀ e ∈ evs, segs[e.1]? = some e.2

theorem sound_init (segs : List (List UInt8)) : Sound segs init := by
  intro i p h; simp [init] at h

theorem sound_run {segs : List (List UInt8)} : ∀ (evs : List (Nat × (List UInt8))) (r : Rx), Sound segs r → Honest segs evs →
    Sound segs (run r evs) := by
  intro evs r hs hh i p h
  rw [run_apply, Option.or_eq_some_iff] at h
  rcases h with h | ⟨_, h⟩
  · exact hs i p h
  · obtain ⟨l₁, l₂, rfl, _⟩ := List.lookup_eq_some_iff.mp h
    exact hh (i, p) (by simp)

theorem deliverFrom_prefix {segs : List (List UInt8)} {r : Rx} (hs : Sound segs r) (f i : Nat) :
    ∃ k, deliverFrom r i f = ((segs.drop i).take k).flatten := by
  fun_induction deliverFrom r i f with
  | case1 => exact ⟨0, rfl⟩
  | case2 i f p hri ih =>
    obtain ⟨k, hk⟩ := ih
    exact ⟨k + 1, by rw [List.drop_eq_getElem?_toList_append, hs i p hri]; simp [hk]⟩
  | case3 => exact ⟨0, rfl⟩

/-- **Safety.** Whatever was lost, duplicated or reordered, honest arrivals give the reader a whole-segment
prefix of the written stream. -/
theorem delivered_prefix {segs : List (List UInt8)} {r : Rx} (hs : Sound segs r) (n : Nat) :
    ∃ k, delivered r n = (segs.take k).flatten := by
  obtain ⟨k, hk⟩ := deliverFrom_prefix hs n 0
  exact ⟨k, by simpa [delivered] using hk⟩

theorem deliverFrom_full {segs : List (List UInt8)} {r : Rx} (hs : Sound segs r)
    (hall : ∀ j, j < segs.length → r j ≠ none) (f i : Nat) (hi : segs.length ≤ i + f) :
    deliverFrom r i f = (segs.drop i).flatten := by
  fun_induction deliverFrom r i f with
  | case1 i => rw [List.drop_eq_nil_of_le (i := i) hi]; rfl
  | case2 i f p hri ih => rw [List.drop_eq_getElem?_toList_append, hs i p hri]; simp [ih (by omega)]
  | case3 i f hri =>
    -- a gap can only be behind the last segment
    have : segs.length ≤ i := Nat.le_of_not_lt fun h => hall i h hri
    simp [List.drop_eq_nil_of_le this]

/-- **Exactness.** Once every segment has arrived the reader has been handed exactly the written stream. -/
theorem delivered_exact {segs : List (List UInt8)} {r : Rx} (hs : Sound segs r)
    (hall : ∀ j, j < segs.length → r j ≠ none) (n : Nat) (hn : segs.length ≤ n) :
    delivered r n = segs.flatten := by
  have := deliverFrom_full hs hall n 0 (by omega)
  simpa [delivered] using this

def Le (r r' : Rx) : Prop := ∀ i p, r i = some p → r' i = some p

theorem le_run (evs : List (Nat × (List UInt8))) (r : Rx) : Le r (run r evs) := by
  intro i p h
  rw [run_apply, h]; rfl

theorem deliverFrom_mono {r r' : Rx} (h : Le r r') (f i : Nat) : deliverFrom r i f <+: deliverFrom r' i f := by
  fun_induction deliverFrom r i f with
  | case2 i f p hri ih =>
    rw [deliverFrom, h i p hri]
    exact (List.prefix_append_right_inj p).mpr ih
  | _ => exact List.nil_prefix

/-- **Exactly once, never taken back.** Later arrivals only extend what the reader has been handed. -/
theorem delivered_mono (r : Rx) (evs : List (Nat × (List UInt8))) (n : Nat) :
    delivered r n <+: delivered (run r evs) n :=
  deliverFrom_mono (le_run evs r) n 0

theorem run_holds : ∀ (evs : List (Nat × (List UInt8))) (r : Rx) (i : Nat),
    (r i ≠ none ∨ ∃ p, (i, p) ∈ evs) → run r evs i ≠ none := by
  intro evs r i h
  rw [run_apply, Ne, Option.or_eq_none_iff, List.lookup_eq_none_iff]
  rintro ⟨h1, h2⟩
  rcases h with h | ⟨p, hp⟩
  · exact h h1
  · simpa using h2 _ hp

end Snowflake.Reasm
