import Snowflake.Proofs.Json
import Snowflake.Model.Messages
/-!
# C12 — broker messages round-trip and invalid ones are rejected

About `Snowflake.Messages`, the model of `common/messages/{proxy,client}.go` and
`common/bridgefingerprint/fingerprint.go` over the `encoding/json` model.  Field values are arbitrary
`List Char` strings (every valid-UTF-8 Go string), integers range over Go's `int`.
-/
namespace Snowflake.Messages.C12
open Snowflake Snowflake.Json

theorem unmarshal_marshal (init : Struct) (fs : List MField) :
    unmarshalStruct init (marshalObj fs) = finishBind (bindObj init ((keptFields fs).map toJsonKV)) := by
  unfold unmarshalStruct
  rw [parse_marshalObj]

/-- documented default: missing NAT means unknown -/
def normNat (nat : Text) : Text := if nat = [] then natUnknown else nat
/-- documented default: unrecognised proxy type means unknown -/
def normType (t : Text) : Text := if knownProxyTypes.contains t then t else proxyUnknown
/-- the NAT values the decoders accept -/
def NatValid (nat : Text) : Prop := nat = [] ∨ nat = natUnknown ∨ nat = natRestricted ∨ nat = natUnrestricted
/-- Go's `int` (64 bits) -/
def IntRange (i : Int) : Prop := -(2 ^ 63 : Int) ≤ i ∧ i < (2 ^ 63 : Int)

instance (nat : Text) : Decidable (NatValid nat) := by unfold NatValid; exact inferInstance

theorem natSwitch_eq (nat : Text) : natSwitch nat = if NatValid nat then some (normNat nat) else none := by
  unfold natSwitch NatValid normNat
  by_cases h1 : nat = []
  · simp only [h1, if_true, true_or]
  · simp only [h1, if_false, false_or]
    by_cases h2 : nat = natUnknown
    · simp only [h2, if_true, true_or]
    · simp only [h2, if_false, false_or]
      by_cases h3 : nat = natRestricted
      · simp only [h3, if_true, true_or]
      · simp only [h3, if_false, false_or]

theorem normNat_ne_nil (nat : Text) : normNat nat ≠ [] := by
  unfold normNat
  split
  · decide
  · assumption

theorem splitOn_head (sep : Char) (v : Text) :
    ∃ xs, splitOn sep v = v.takeWhile (fun c => c ≠ sep) :: xs := by
  induction v with
  | nil => exact ⟨[], rfl⟩
  | cons c r ih =>
    obtain ⟨xs, hx⟩ := ih
    by_cases h : c = sep
    · exact ⟨splitOn sep r, by simp [splitOn, h]⟩
    · exact ⟨xs, by simp [splitOn, h, hx]⟩

/-- `strings.Split(v, ".")[0]`; the index is always in range. -/
def major (v : Text) : Text := v.takeWhile (fun c => c ≠ '.')

theorem majorVersion_eq (v : Text) : majorVersion v = .ok (major v) := by
  obtain ⟨xs, hx⟩ := splitOn_head '.' v
  simp [majorVersion, index, hx, major]

/-- the simp set that evaluates binding and field access on concrete member names -/
macro "eval_msg" "[" ts:Lean.Parser.Tactic.simpLemma,* "]" : tactic =>
  `(tactic| simp (config := {decide := true}) [keptFields, toJsonKV, MVal.toJson, MVal.isEmpty, getD_ofText, bindObj,
    bindMember, resolve, storeAt, FVal.store, finishBind, Struct.getStr, $ts,*])

/-- The common shape of the decoders: `Unmarshal` into the zero struct, accept exactly the structs that
satisfy `valid`, return what `view` reads off them. -/
def decodeVia {β : Type} (init : Struct) (valid : Struct → Prop) [DecidablePred valid] (view : Struct → β)
    (data : Text) : Res β :=
  match unmarshalStruct init data with
  | none => .err
  | some m => if valid m then .ok (view m) else .err

section
variable {β : Type} {init : Struct} {valid : Struct → Prop} [DecidablePred valid] {view : Struct → β} {data : Text}

theorem decodeVia_ne_panic : decodeVia init valid view data ≠ .panic := by
  unfold decodeVia
  split
  · nofun
  · split <;> nofun

theorem decodeVia_none (h : unmarshalStruct init data = none) : decodeVia init valid view data = .err := by
  unfold decodeVia; rw [h]

theorem decodeVia_some {m : Struct} (h : unmarshalStruct init data = some m) :
    decodeVia init valid view data = if valid m then .ok (view m) else .err := by
  unfold decodeVia; rw [h]

theorem decodeVia_invalid (h : ∀ m, unmarshalStruct init data = some m → ¬ valid m) :
    decodeVia init valid view data = .err := by
  cases hm : unmarshalStruct init data with
  | none => exact decodeVia_none hm
  | some m => rw [decodeVia_some hm, if_neg (h m hm)]

theorem decodeVia_eq_ok {b : β} :
    decodeVia init valid view data = .ok b ↔ ∃ m, unmarshalStruct init data = some m ∧ valid m ∧ view m = b := by
  unfold decodeVia
  cases unmarshalStruct init data with
  | none => simp
  | some m =>
    by_cases h : valid m <;> simp [h]
end

theorem ite_and {α : Sort _} (a b : Prop) [Decidable a] [Decidable b] (x y : α) :
    (if a ∧ b then x else y) = if a then (if b then x else y) else y := by
  by_cases ha : a
  · simp only [ha, true_and, if_true]
  · simp only [ha, false_and, if_false]

/-- Injectivity of an encoder on the valid messages is a corollary of its round trip. -/
theorem decoded_eq {β γ : Type} (dec : γ → β) {x x' : γ} {b b' : β} (h : x = x') (hx : dec x = b) (hx' : dec x' = b') :
    b = b' := by
  rw [← hx, ← hx', h]

/-! ### ProxyPollRequest -/

theorem decodePoll_eq (data : Text) :
    decodeProxyPollRequestWithRelayPrefix data = decodeVia pollReqInit
      (fun m => major (m.getStr "Version".toList) = majorOne ∧ m.getStr "Sid".toList ≠ [] ∧
        NatValid (m.getStr "NAT".toList))
      (fun m => { sid := m.getStr "Sid".toList, proxyType := normType (m.getStr "Type".toList),
                  natType := normNat (m.getStr "NAT".toList), clients := m.getInt "Clients".toList,
                  relayPrefix := (m.getOptStr "AcceptedRelayPattern".toList).getD [],
                  relayPrefixAware := (m.getOptStr "AcceptedRelayPattern".toList).isSome }) data := by
  unfold decodeProxyPollRequestWithRelayPrefix decodeVia
  cases unmarshalStruct pollReqInit data with
  | none => rfl
  | some m =>
    simp only [majorVersion_eq, natSwitch_eq, ite_and, ite_not]
    by_cases hn : NatValid (m.getStr "NAT".toList)
    · simp only [hn, if_true]
      cases m.getOptStr "AcceptedRelayPattern".toList <;> rfl
    · simp only [hn, if_false]

/-- **Round trip, proxy poll request**, under exactly the validity the decoder enforces; the documented
defaults apply (missing NAT ↦ unknown, unrecognised type ↦ unknown) and the proxy is reported as
relay-pattern aware. -/
theorem proxy_poll_rt (sid ptype nat pattern : Text) (clients : Int) (hc : IntRange clients)
    (hsid : sid ≠ []) (hnat : NatValid nat) :
    decodeProxyPollRequestWithRelayPrefix
        (encodeProxyPollRequestWithRelayPrefix (ofText sid) (ofText ptype) (ofText nat) clients (ofText pattern))
      = .ok { sid := sid, proxyType := normType ptype, natType := normNat nat, clients := clients,
              relayPrefix := pattern, relayPrefixAware := true } := by
  rw [decodePoll_eq]
  refine decodeVia_eq_ok.2 ⟨[("Sid".toList, .str sid), ("Version".toList, .str version), ("Type".toList, .str ptype),
    ("NAT".toList, .str nat), ("Clients".toList, .int clients), ("AcceptedRelayPattern".toList, .optStr (some pattern))],
    ?_, ⟨show major version = majorOne by decide, hsid, hnat⟩, rfl⟩
  unfold encodeProxyPollRequestWithRelayPrefix
  rw [unmarshal_marshal]
  eval_msg [parseInt64_renderInt clients hc.1 hc.2, pollReqInit]

/-- the predicate is inhabited -/
example : ("sid".toList ≠ []) ∧ NatValid "restricted".toList ∧ IntRange 8 := by
  refine ⟨by decide, Or.inr (Or.inr (Or.inl rfl)), ⟨by decide, by decide⟩⟩

/-- The legacy decoder is the new one, except that it refuses a relay pattern (`ErrExtraInfo`). -/
theorem decodeProxyPollRequest_ok {data : Text} {m : PollRequest} (h : decodeProxyPollRequestWithRelayPrefix data = .ok m) :
    decodeProxyPollRequest data = if m.relayPrefix ≠ [] then .err else .ok (m.sid, m.proxyType, m.natType, m.clients) := by
  unfold decodeProxyPollRequest; rw [h]

/-- Round trip through the legacy pair `EncodeProxyPollRequest` / `DecodeProxyPollRequest`. -/
theorem proxy_poll_legacy_rt (sid ptype nat : Text) (clients : Int) (hc : IntRange clients)
    (hsid : sid ≠ []) (hnat : NatValid nat) :
    decodeProxyPollRequest (encodeProxyPollRequest (ofText sid) (ofText ptype) (ofText nat) clients)
      = .ok (sid, normType ptype, normNat nat, clients) :=
  (decodeProxyPollRequest_ok (proxy_poll_rt sid ptype nat [] clients hc hsid hnat)).trans (if_neg (not_not_intro rfl))

/-- `ErrExtraInfo`: the legacy decoder rejects a poll that carries a relay pattern. -/
theorem rejects_extra_info_poll (sid ptype nat pattern : Text) (clients : Int) (hc : IntRange clients)
    (hsid : sid ≠ []) (hnat : NatValid nat) (hp : pattern ≠ []) :
    decodeProxyPollRequest
        (encodeProxyPollRequestWithRelayPrefix (ofText sid) (ofText ptype) (ofText nat) clients (ofText pattern))
      = .err :=
  (decodeProxyPollRequest_ok (proxy_poll_rt sid ptype nat pattern clients hc hsid hnat)).trans (if_pos hp)

/-- **Acceptance is sound, proxy poll request**: for every input text, what the decoder accepts has major
version 1, a non-empty session id and a valid NAT type; the defaults are those of the round trip; the
pattern is reported as unsupported exactly when the member was absent or `null`. -/
theorem poll_accepts_only_valid (data : Text) (m : PollRequest)
    (h : decodeProxyPollRequestWithRelayPrefix data = .ok m) :
    ∃ message, unmarshalStruct pollReqInit data = some message ∧
      major (message.getStr "Version".toList) = majorOne ∧
      m.sid = message.getStr "Sid".toList ∧ m.sid ≠ [] ∧
      NatValid (message.getStr "NAT".toList) ∧ m.natType = normNat (message.getStr "NAT".toList) ∧
      m.proxyType = normType (message.getStr "Type".toList) ∧
      m.clients = message.getInt "Clients".toList ∧
      m.relayPrefixAware = (message.getOptStr "AcceptedRelayPattern".toList).isSome ∧
      m.relayPrefix = (message.getOptStr "AcceptedRelayPattern".toList).getD [] := by
  rw [decodePoll_eq, decodeVia_eq_ok] at h
  obtain ⟨message, hm, ⟨hv, hs, hn⟩, rfl⟩ := h
  exact ⟨message, hm, hv, rfl, hs, hn, rfl, rfl, rfl, rfl, rfl⟩

theorem poll_nat_is_a_name (data : Text) (m : PollRequest)
    (h : decodeProxyPollRequestWithRelayPrefix data = .ok m) :
    m.natType = natUnknown ∨ m.natType = natRestricted ∨ m.natType = natUnrestricted := by
  obtain ⟨message, _, _, _, _, hv, hn, _⟩ := poll_accepts_only_valid data m h
  rw [hn]
  unfold normNat
  split
  · exact .inl rfl
  · exact hv.resolve_left ‹_›

/-- `rejects_*`, proxy poll request: a major version other than "1", an empty session id, a NAT type
that is neither empty nor one of the three names are errors, for every input text. -/
theorem rejects_poll (data : Text) (message : Struct)
    (hm : unmarshalStruct pollReqInit data = some message)
    (hbad : major (message.getStr "Version".toList) ≠ majorOne ∨ message.getStr "Sid".toList = [] ∨
      ¬ NatValid (message.getStr "NAT".toList)) :
    decodeProxyPollRequestWithRelayPrefix data = .err := by
  rw [decodePoll_eq, decodeVia_some hm]
  exact if_neg fun ⟨hv, hs, hn⟩ => hbad.elim (· hv) (·.elim hs (· hn))

/-- What `Unmarshal` refuses is an error: not JSON, trailing data, nesting deeper than 10000, a top-level
value that is neither object nor null, a member of the wrong JSON type, an `int` out of range. -/
theorem rejects_unmarshal_poll (data : Text) (h : unmarshalStruct pollReqInit data = none) :
    decodeProxyPollRequestWithRelayPrefix data = .err := by
  rw [decodePoll_eq]; exact decodeVia_none h

/-! ### ProxyPollResponse -/

theorem decodePollResp_some {data : Text} {m : Struct} (h : unmarshalStruct pollRespInit data = some m) :
    decodePollResponseWithRelayURL data =
      if m.getStr "Status".toList = [] then .err
      else if m.getStr "Status".toList = statusClientMatch then
        if m.getStr "Offer".toList = [] then .err
        else .ok (m.getStr "Offer".toList) (normNat (m.getStr "NAT".toList)) (m.getStr "RelayURL".toList)
      else if m.getStr "Status".toList ≠ statusNoMatch then
        .failure (m.getStr "Status".toList) (normNat (m.getStr "NAT".toList)) (m.getStr "RelayURL".toList)
      else .ok [] (normNat (m.getStr "NAT".toList)) (m.getStr "RelayURL".toList) := by
  unfold decodePollResponseWithRelayURL
  rw [h]
  rfl

theorem rejects_unmarshal_pollresp (data : Text) (h : unmarshalStruct pollRespInit data = none) :
    decodePollResponseWithRelayURL data = .err := by
  unfold decodePollResponseWithRelayURL
  rw [h]

theorem pollresp_bind (status offer nat url : Text) :
    unmarshalStruct pollRespInit
        (marshalObj [{ name := "Status".toList, val := .str (ofText status) },
                     { name := "Offer".toList, val := .str (ofText offer) },
                     { name := "NAT".toList, val := .str (ofText nat) },
                     { name := "RelayURL".toList, val := .str (ofText url) }]) =
      some [("Status".toList, .str status), ("Offer".toList, .str offer), ("NAT".toList, .str nat),
        ("RelayURL".toList, .str url)] := by
  rw [unmarshal_marshal]
  eval_msg [pollRespInit]

/-- **Round trip, poll response with a client match**: the offer, the NAT type (empty ↦ unknown) and
the relay URL come back; valid iff the offer is non-empty. -/
theorem proxy_poll_resp_match_rt (offer nat url reason : Text) (ho : offer ≠ []) :
    decodePollResponseWithRelayURL
        (encodePollResponseWithRelayURL (ofText offer) true (ofText nat) (ofText url) (ofText reason))
      = .ok offer (normNat nat) url := by
  unfold encodePollResponseWithRelayURL
  exact (decodePollResp_some (pollresp_bind statusClientMatch offer nat url)).trans
    ((if_neg (show statusClientMatch ≠ [] by decide)).trans ((if_pos rfl).trans (if_neg ho)))

/-- **Round trip, "no match"**: decodes to an empty offer, NAT unknown, no relay URL. -/
theorem proxy_poll_resp_nomatch_rt (offer nat url : Text) :
    decodePollResponseWithRelayURL
        (encodePollResponseWithRelayURL (ofText offer) false (ofText nat) (ofText url) (ofText statusNoMatch))
      = .ok [] natUnknown [] := by
  unfold encodePollResponseWithRelayURL
  exact (decodePollResp_some (pollresp_bind statusNoMatch [] [] [])).trans
    ((if_neg (show statusNoMatch ≠ [] by decide)).trans ((if_neg (show statusNoMatch ≠ statusClientMatch by decide)).trans
      (if_neg (not_not_intro rfl))))

/-- **Round trip, failure reason**: any other non-empty status comes back as the error text, with an
empty offer. -/
theorem proxy_poll_resp_failure_rt (offer nat url reason : Text) (h0 : reason ≠ [])
    (h1 : reason ≠ statusClientMatch) (h2 : reason ≠ statusNoMatch) :
    decodePollResponseWithRelayURL
        (encodePollResponseWithRelayURL (ofText offer) false (ofText nat) (ofText url) (ofText reason))
      = .failure reason natUnknown [] := by
  unfold encodePollResponseWithRelayURL
  exact (decodePollResp_some (pollresp_bind reason [] [] [])).trans ((if_neg h0).trans ((if_neg h1).trans (if_pos h2)))

/-- the three predicates are inhabited (`StrTimedOut` is such a failure reason) -/
example : "o".toList ≠ [] := by decide
example : "timed out waiting for answer!".toList ≠ [] ∧ "timed out waiting for answer!".toList ≠ statusClientMatch ∧
    "timed out waiting for answer!".toList ≠ statusNoMatch := by decide

/-- The legacy decoder is the new one, except that it refuses a relay URL. -/
theorem decodePollResponse_ok {data offer nat url : Text} (h : decodePollResponseWithRelayURL data = .ok offer nat url) :
    decodePollResponse data = if url ≠ [] then .err else .ok offer nat := by
  unfold decodePollResponse; rw [h]

/-- Legacy pair `EncodePollResponse` / `DecodePollResponse`. -/
theorem proxy_poll_resp_legacy_rt (offer nat : Text) (ho : offer ≠ []) :
    decodePollResponse (encodePollResponse (ofText offer) true (ofText nat)) = .ok offer (normNat nat) ∧
    decodePollResponse (encodePollResponse (ofText offer) false (ofText nat)) = .ok [] natUnknown :=
  ⟨(decodePollResponse_ok (proxy_poll_resp_match_rt offer nat [] statusNoMatch ho)).trans (if_neg (not_not_intro rfl)),
   (decodePollResponse_ok (proxy_poll_resp_nomatch_rt offer nat [])).trans (if_neg (not_not_intro rfl))⟩

theorem rejects_extra_info_resp (offer nat url : Text) (ho : offer ≠ []) (hu : url ≠ []) :
    decodePollResponse (encodePollResponseWithRelayURL (ofText offer) true (ofText nat) (ofText url) [])
      = .err :=
  (decodePollResponse_ok (proxy_poll_resp_match_rt offer nat url [] ho)).trans (if_pos hu)

/-- **Acceptance is sound, poll response**: an accepted match has a non-empty offer; an accepted
non-match has status "no match"; a reported failure reason is the (non-empty) status. -/
theorem pollresp_accepts_only_valid (data : Text) :
    (∀ offer nat url, decodePollResponseWithRelayURL data = .ok offer nat url →
      ∃ message, unmarshalStruct pollRespInit data = some message ∧ nat ≠ [] ∧
        ((message.getStr "Status".toList = statusClientMatch ∧ offer = message.getStr "Offer".toList ∧ offer ≠ [])
         ∨ (message.getStr "Status".toList = statusNoMatch ∧ offer = []))) ∧
    (∀ reason nat url, decodePollResponseWithRelayURL data = .failure reason nat url →
      ∃ message, unmarshalStruct pollRespInit data = some message ∧ nat ≠ [] ∧
        reason = message.getStr "Status".toList ∧ reason ≠ [] ∧ reason ≠ statusClientMatch ∧
        reason ≠ statusNoMatch) := by
  cases hm : unmarshalStruct pollRespInit data with
  | none => rw [rejects_unmarshal_pollresp data hm]; exact ⟨nofun, nofun⟩
  | some message =>
    have hnat := normNat_ne_nil (message.getStr "NAT".toList)
    rw [decodePollResp_some hm]
    by_cases h0 : message.getStr "Status".toList = []
    · rw [if_pos h0]; exact ⟨nofun, nofun⟩
    rw [if_neg h0]
    by_cases h1 : message.getStr "Status".toList = statusClientMatch
    · rw [if_pos h1]
      by_cases ho : message.getStr "Offer".toList = []
      · rw [if_pos ho]; exact ⟨nofun, nofun⟩
      · rw [if_neg ho]
        exact ⟨fun _ _ _ h => by cases h; exact ⟨message, rfl, hnat, .inl ⟨h1, rfl, ho⟩⟩, nofun⟩
    rw [if_neg h1]
    by_cases h2 : message.getStr "Status".toList = statusNoMatch
    · rw [if_neg (not_not_intro h2)]
      exact ⟨fun _ _ _ h => by cases h; exact ⟨message, rfl, hnat, .inr ⟨h2, rfl⟩⟩, nofun⟩
    · rw [if_pos h2]
      exact ⟨nofun, fun _ _ _ h => by cases h; exact ⟨message, rfl, hnat, rfl, h0, h1, h2⟩⟩

/-- `rejects_*`, poll response: an empty status, and a client match without offer, are errors. -/
theorem rejects_pollresp (data : Text) (message : Struct)
    (hm : unmarshalStruct pollRespInit data = some message)
    (hbad : message.getStr "Status".toList = [] ∨
      (message.getStr "Status".toList = statusClientMatch ∧ message.getStr "Offer".toList = [])) :
    decodePollResponseWithRelayURL data = .err := by
  rw [decodePollResp_some hm]
  rcases hbad with hb | ⟨hb, ho⟩
  · rw [if_pos hb]
  · rw [if_neg (hb ▸ by decide), if_pos hb, if_pos ho]

/-! ### ProxyAnswerRequest / ProxyAnswerResponse -/

theorem decodeAnswerReq_eq (data : Text) :
    decodeAnswerRequest data = decodeVia answerReqInit
      (fun m => major (m.getStr "Version".toList) = majorOne ∧
        ¬ (m.getStr "Sid".toList = [] ∨ m.getStr "Answer".toList = []))
      (fun m => (m.getStr "Answer".toList, m.getStr "Sid".toList)) data := by
  unfold decodeAnswerRequest decodeVia
  cases unmarshalStruct answerReqInit data with
  | none => rfl
  | some m => simp only [majorVersion_eq, ite_and, ite_not, Bool.or_eq_true, decide_eq_true_eq]

/-- **Round trip, answer request**: valid iff session id and answer are non-empty. -/
theorem answer_req_rt (answer sid : Text) (ha : answer ≠ []) (hs : sid ≠ []) :
    decodeAnswerRequest (encodeAnswerRequest (ofText answer) (ofText sid)) = .ok (answer, sid) := by
  rw [decodeAnswerReq_eq]
  refine decodeVia_eq_ok.2 ⟨[("Version".toList, .str version), ("Sid".toList, .str sid), ("Answer".toList, .str answer)],
    ?_, ⟨show major version = majorOne by decide, fun h => h.elim hs ha⟩, rfl⟩
  unfold encodeAnswerRequest
  rw [unmarshal_marshal]
  eval_msg [answerReqInit]

example : "a".toList ≠ [] ∧ "s".toList ≠ [] := by decide

/-- **Acceptance is sound, answer request.** -/
theorem answer_req_accepts_only_valid (data : Text) (answer sid : Text)
    (h : decodeAnswerRequest data = .ok (answer, sid)) :
    ∃ message, unmarshalStruct answerReqInit data = some message ∧
      major (message.getStr "Version".toList) = majorOne ∧
      sid = message.getStr "Sid".toList ∧ answer = message.getStr "Answer".toList ∧ sid ≠ [] ∧ answer ≠ [] := by
  rw [decodeAnswerReq_eq, decodeVia_eq_ok] at h
  obtain ⟨message, hm, ⟨hv, hsa⟩, e⟩ := h
  cases e
  exact ⟨message, hm, hv, rfl, rfl, fun h => hsa (.inl h), fun h => hsa (.inr h)⟩

/-- `rejects_*`, answer request: a major version other than "1", an empty session id or an empty
answer are errors. -/
theorem rejects_answer_req (data : Text) (message : Struct)
    (hm : unmarshalStruct answerReqInit data = some message)
    (hbad : major (message.getStr "Version".toList) ≠ majorOne ∨ message.getStr "Sid".toList = [] ∨
      message.getStr "Answer".toList = []) :
    decodeAnswerRequest data = .err := by
  rw [decodeAnswerReq_eq, decodeVia_some hm]
  exact if_neg fun ⟨hv, hsa⟩ => hbad.elim (· hv) hsa

theorem rejects_unmarshal_answer_req (data : Text) (h : unmarshalStruct answerReqInit data = none) :
    decodeAnswerRequest data = .err := by
  rw [decodeAnswerReq_eq]; exact decodeVia_none h

theorem decodeAnswerResp_eq (data : Text) :
    decodeAnswerResponse data = decodeVia answerRespInit (fun m => m.getStr "Status".toList ≠ [])
      (fun m => decide (m.getStr "Status".toList = statusSuccess)) data := by
  unfold decodeAnswerResponse decodeVia
  cases unmarshalStruct answerRespInit data with
  | none => rfl
  | some m =>
    simp only [ite_not]

/-- **Round trip, answer response.** -/
theorem answer_resp_rt (success : Bool) : decodeAnswerResponse (encodeAnswerResponse success) = .ok success := by
  cases success <;> decide +kernel

/-- **Acceptance is sound, answer response**: the status is non-empty, and success is reported exactly for
the status "success". -/
theorem answer_resp_accepts_only_valid (data : Text) (b : Bool) (h : decodeAnswerResponse data = .ok b) :
    ∃ message, unmarshalStruct answerRespInit data = some message ∧
      message.getStr "Status".toList ≠ [] ∧ (b = true ↔ message.getStr "Status".toList = statusSuccess) := by
  rw [decodeAnswerResp_eq, decodeVia_eq_ok] at h
  obtain ⟨message, hm, hs, rfl⟩ := h
  exact ⟨message, hm, hs, decide_eq_true_iff⟩

theorem rejects_unmarshal_answer_resp (data : Text) (h : unmarshalStruct answerRespInit data = none) :
    decodeAnswerResponse data = .err := by
  rw [decodeAnswerResp_eq]; exact decodeVia_none h

/-! ### ClientPollRequest -/

theorem splitN2_version (body : Text) : splitN2 (clientVersion ++ '\n' :: body) = [clientVersion, body] := by
  simp [clientVersion, splitN2]

/-- documented default: missing fingerprint means the default bridge -/
abbrev normFingerprint (fp : Text) : Text := fingerprintOrDefault fp

theorem encode_fingerprint_default (fp : Text) :
    (if (ofText fp).isEmpty then ofText defaultBridgeFingerprint else ofText fp) = ofText (normFingerprint fp) := by
  cases fp <;> simp [ofText, fingerprintOrDefault]

theorem splitN2_cases (data : Text) : (∃ x, splitN2 data = [x]) ∨ ∃ v body, splitN2 data = [v, body] := by
  fun_cases splitN2 data
  · exact .inl ⟨_, rfl⟩
  · exact .inr ⟨_, _, rfl⟩
  · exact .inr ⟨_, _, rfl⟩
  · exact .inl ⟨_, rfl⟩

/-- without a newline there is no version line -/
theorem decodeClientReq_short {data x : Text} (hs : splitN2 data = [x]) : decodeClientPollRequest data = .err := by
  unfold decodeClientPollRequest
  rw [hs]
  rfl

/-- the first line must be the version; the rest is decoded like the other messages -/
theorem decodeClientReq_eq {data v body : Text} (hs : splitN2 data = [v, body]) :
    decodeClientPollRequest data =
      if v = clientVersion then
        decodeVia clientReqInit
          (fun m => m.getStr "offer".toList ≠ [] ∧ fingerprintOk (normFingerprint (m.getStr "fingerprint".toList)) = true ∧
            NatValid (m.getStr "nat".toList))
          (fun m => { offer := m.getStr "offer".toList, nat := normNat (m.getStr "nat".toList),
                      fingerprint := normFingerprint (m.getStr "fingerprint".toList) }) body
      else .err := by
  unfold decodeClientPollRequest decodeVia
  rw [hs]
  change (if v ≠ clientVersion then Res.err else _) = _
  simp only [natSwitch_eq, ite_and, ite_not]
  by_cases hv : v = clientVersion
  · rw [if_pos hv, if_pos hv]
    cases unmarshalStruct clientReqInit body with
    | none => rfl
    | some m =>
      simp only [Bool.not_eq_true', ← Bool.not_eq_true, ite_not]
      by_cases hn : NatValid (m.getStr "nat".toList)
      · simp only [hn, if_true]
      · simp only [hn, if_false]
  · rw [if_neg hv, if_neg hv]

theorem fingerprintOk_default : fingerprintOk defaultBridgeFingerprint = true := by decide +kernel

/-- **Round trip, client poll request.** Valid iff the offer is non-empty, the NAT type is empty or one of
the three names and the fingerprint is empty or the hex form of 20 or 32 bytes; the defaults apply (NAT
unknown; default bridge fingerprint, already put in by the encoder). -/
theorem client_req_rt (offer nat fp : Text) (ho : offer ≠ []) (hn : NatValid nat)
    (hf : fp = [] ∨ fingerprintOk fp = true) :
    decodeClientPollRequest (encodeClientPollRequest (ofText offer) (ofText nat) (ofText fp))
      = .ok { offer := offer, nat := normNat nat, fingerprint := normFingerprint fp } := by
  have hok : fingerprintOk (normFingerprint fp) = true := by
    unfold normFingerprint fingerprintOrDefault
    split
    · exact fingerprintOk_default
    · exact hf.resolve_left ‹_›
  have hid : normFingerprint (normFingerprint fp) = normFingerprint fp :=
    if_neg fun e => by rw [e] at hok; cases hok
  rw [← hid]
  unfold encodeClientPollRequest
  rw [encode_fingerprint_default, decodeClientReq_eq (splitN2_version _), if_pos rfl]
  refine decodeVia_eq_ok.2 ⟨[("offer".toList, .str offer), ("nat".toList, .str nat),
    ("fingerprint".toList, .str (normFingerprint fp))], ?_, ⟨ho, hid.symm ▸ hok, hn⟩, rfl⟩
  rw [unmarshal_marshal]
  eval_msg [clientReqInit]

example : "o".toList ≠ [] ∧ NatValid [] ∧ fingerprintOk "2B280B23E1107BB62ABFC40DDCC8824814F80A72".toList = true :=
  ⟨by decide, Or.inl rfl, fingerprintOk_default⟩

/-- **Acceptance is sound, client poll request**: the version line is "1.0", the offer is non-empty,
the NAT type is one of the three names, the fingerprint is the hex form of 20 or 32 bytes. -/
theorem client_req_accepts_only_valid (data : Text) (m : ClientRequest)
    (h : decodeClientPollRequest data = .ok m) :
    ∃ body message, splitN2 data = [clientVersion, body] ∧ unmarshalStruct clientReqInit body = some message ∧
      m.offer = message.getStr "offer".toList ∧ m.offer ≠ [] ∧
      NatValid (message.getStr "nat".toList) ∧ m.nat = normNat (message.getStr "nat".toList) ∧
      m.fingerprint = normFingerprint (message.getStr "fingerprint".toList) ∧ fingerprintOk m.fingerprint = true := by
  rcases splitN2_cases data with ⟨x, hs⟩ | ⟨v, body, hs⟩
  · rw [decodeClientReq_short hs] at h; cases h
  · rw [decodeClientReq_eq hs] at h
    split at h
    · rename_i hv
      subst hv
      obtain ⟨message, hm, ⟨ho, hf, hn⟩, rfl⟩ := decodeVia_eq_ok.1 h
      exact ⟨body, message, hs, hm, rfl, ho, hn, rfl, rfl, hf⟩
    · cases h

/-- `rejects_*`, client poll request: no version line, a version other than "1.0", a missing offer, a
NAT type outside the three names, a fingerprint that is not 20 or 32 hex-encoded bytes are errors. -/
theorem rejects_client_req (data : Text) :
    (∀ x, splitN2 data = [x] → decodeClientPollRequest data = .err) ∧
    (∀ v body, splitN2 data = [v, body] → v ≠ clientVersion → decodeClientPollRequest data = .err) ∧
    (∀ body, splitN2 data = [clientVersion, body] → unmarshalStruct clientReqInit body = none →
      decodeClientPollRequest data = .err) ∧
    (∀ body message, splitN2 data = [clientVersion, body] → unmarshalStruct clientReqInit body = some message →
      (message.getStr "offer".toList = [] ∨ ¬ NatValid (message.getStr "nat".toList) ∨
        fingerprintOk (normFingerprint (message.getStr "fingerprint".toList)) = false) →
      decodeClientPollRequest data = .err) := by
  refine ⟨fun x hx => decodeClientReq_short hx, fun v body hs hv => ?_, fun body hs hm => ?_,
    fun body message hs hm hbad => ?_⟩
  · rw [decodeClientReq_eq hs, if_neg hv]
  · rw [decodeClientReq_eq hs, if_pos rfl, decodeVia_none hm]
  · rw [decodeClientReq_eq hs, if_pos rfl, decodeVia_some hm]
    exact if_neg fun ⟨ho, hf, hn⟩ => hbad.elim ho (·.elim (· hn) (by rw [hf]; nofun))

/-! ### ClientPollResponse -/

theorem decodeClientResp_eq (data : Text) :
    decodeClientPollResponse data = decodeVia clientRespInit
      (fun m => ¬ (m.getStr "error".toList = [] ∧ m.getStr "answer".toList = []))
      (fun m => (m.getStr "answer".toList, m.getStr "error".toList)) data := by
  unfold decodeClientPollResponse decodeVia
  cases unmarshalStruct clientRespInit data with
  | none => rfl
  | some m => simp only [Bool.and_eq_true, decide_eq_true_eq, ite_not]

/-- **Round trip, client poll response** (`omitempty` on both members): valid iff answer or error is
non-empty. -/
theorem client_resp_rt (answer error : Text) (h : answer ≠ [] ∨ error ≠ []) :
    decodeClientPollResponse (encodeClientPollResponse (ofText answer) (ofText error)) = .ok (answer, error) := by
  unfold decodeClientPollResponse encodeClientPollResponse
  rw [unmarshal_marshal]
  -- `omitempty`: which members were written depends on which of the two texts are empty
  cases answer with
  | nil =>
    cases error with
    | nil => simp at h
    | cons e es => eval_msg [clientRespInit, ofText, map_getD_some]
  | cons a as =>
    cases error with
    | nil => eval_msg [clientRespInit, ofText, map_getD_some]
    | cons e es => eval_msg [clientRespInit, ofText, map_getD_some]

example : ("a".toList ≠ [] ∨ ([] : Text) ≠ []) := Or.inl (by decide)

theorem rejects_empty_response_encoded : decodeClientPollResponse (encodeClientPollResponse [] []) = .err := by
  decide +kernel

/-- **Acceptance is sound, client poll response**: never both empty. -/
theorem client_resp_accepts_only_valid (data : Text) (answer error : Text)
    (h : decodeClientPollResponse data = .ok (answer, error)) :
    ∃ message, unmarshalStruct clientRespInit data = some message ∧
      answer = message.getStr "answer".toList ∧ error = message.getStr "error".toList ∧
      (answer ≠ [] ∨ error ≠ []) := by
  rw [decodeClientResp_eq, decodeVia_eq_ok] at h
  obtain ⟨message, hm, hv, e⟩ := h
  cases e
  refine ⟨message, hm, rfl, rfl, ?_⟩
  by_cases he : message.getStr "error".toList = []
  · exact .inl fun ha => hv ⟨he, ha⟩
  · exact .inr he

/-- `rejects_*`, client poll response: neither answer nor error ⇒ error, for every input. -/
theorem rejects_empty_response (data : Text) (message : Struct)
    (hm : unmarshalStruct clientRespInit data = some message)
    (he : message.getStr "error".toList = []) (ha : message.getStr "answer".toList = []) :
    decodeClientPollResponse data = .err := by
  rw [decodeClientResp_eq, decodeVia_some hm]
  exact if_neg (not_not_intro ⟨he, ha⟩)

theorem rejects_unmarshal_client_resp (data : Text) (h : unmarshalStruct clientRespInit data = none) :
    decodeClientPollResponse data = .err := by
  rw [decodeClientResp_eq]; exact decodeVia_none h

/-! ### What `Unmarshal` refuses, for every struct -/

/-- not JSON (syntax error, trailing data, nesting deeper than 10000) ⇒ `Unmarshal` fails -/
theorem unmarshal_non_json (init : Struct) (data : Text) (h : parse data = none) :
    unmarshalStruct init data = none := by
  unfold unmarshalStruct; rw [h]

theorem unmarshal_wrong_toplevel (init : Struct) (data : Text) (j : Json) (h : parse data = some j)
    (hobj : ∀ kvs, j ≠ .obj kvs) (hnull : j ≠ .null) : unmarshalStruct init data = none := by
  unfold unmarshalStruct; rw [h]
  cases j with
  | obj kvs => exact absurd rfl (hobj kvs)
  | null => exact absurd rfl hnull
  | _ => rfl

/-- top-level `null` leaves the zero struct, which the decoders reject (for the client poll request, whose
JSON follows a version line, see `rejects_client_req`) -/
theorem rejects_null (data : Text) (h : parse data = some .null) :
    decodeProxyPollRequestWithRelayPrefix data = .err ∧ decodePollResponseWithRelayURL data = .err ∧
    decodeAnswerRequest data = .err ∧ decodeAnswerResponse data = .err ∧ decodeClientPollResponse data = .err := by
  have hu : ∀ init, unmarshalStruct init data = some init := by
    intro init; unfold unmarshalStruct; rw [h]
  refine ⟨?_, ?_, ?_, ?_, ?_⟩
  · rw [decodePoll_eq, decodeVia_some (hu _)]; exact if_neg (by decide)
  · rw [decodePollResp_some (hu _)]; exact if_pos (by decide)
  · rw [decodeAnswerReq_eq, decodeVia_some (hu _)]; exact if_neg (by decide)
  · rw [decodeAnswerResp_eq, decodeVia_some (hu _)]; exact if_neg (by decide)
  · rw [decodeClientResp_eq, decodeVia_some (hu _)]; exact if_neg (by decide)

/-- whether a JSON value is acceptable for a field depends only on the field's Go type -/
def typeOk : FVal → Json → Bool
  | .str _, .str _ => true
  | .str _, .null => true
  | .int _, .num lit => (parseInt64 lit).isSome
  | .int _, .null => true
  | .optStr _, .str _ => true
  | .optStr _, .null => true
  | _, _ => false

theorem store_isSome (v : FVal) (j : Json) : (v.store j).isSome = typeOk v j := by
  cases v <;> cases j <;> simp [FVal.store, typeOk]
  split <;> simp_all

/-- a store keeps the Go type of the field, hence what the field accepts -/
theorem typeOk_store {v v' : FVal} {j : Json} (h : v.store j = some v') (j' : Json) : typeOk v' j' = typeOk v j' := by
  cases v with
  | int i =>
    cases j with
    | num lit => simp only [FVal.store] at h; split at h <;> cases h; cases j' <;> rfl
    | null => cases h; rfl
    | _ => cases h
  | _ => cases j <;> cases h <;> cases j' <;> rfl

/-- the current value of the (first) field with a given name -/
def fieldOf : Struct → Text → Option FVal
  | [], _ => none
  | (n, v) :: r, name => if n = name then some v else fieldOf r name

theorem storeAt_some {st st' : Struct} {m : Text} {j : Json} (h : storeAt m j st = some st') :
    st'.map (·.1) = st.map (·.1) ∧ ∀ n, (m ≠ n → st'.find? (·.1 = n) = st.find? (·.1 = n)) ∧
      ∀ j', (fieldOf st' n).map (typeOk · j') = (fieldOf st n).map (typeOk · j') := by
  -- `storeAt`: no field (1); the named field, store succeeds / fails (2, 3); another field, then the rest (4, 5)
  fun_induction storeAt m j st generalizing st' with
  | case1 => cases h; simp
  | case2 v r v' hv =>
    cases h
    refine ⟨rfl, fun n => ?_⟩
    by_cases hn : m = n <;> simp [fieldOf, hn, typeOk_store hv]
  | case3 => cases h
  | case4 x v r hx r' hr ih =>
    cases h
    refine ⟨by simp [(ih hr).1], fun n => ?_⟩
    by_cases hn : x = n
    · simp [fieldOf, hn]
    · simpa [fieldOf, hn] using (ih hr).2 n
  | case5 => cases h

theorem storeAt_wrong_type {st : Struct} {n : Text} {j : Json} {v : FVal} (hf : fieldOf st n = some v)
    (ht : typeOk v j = false) : storeAt n j st = none := by
  fun_induction storeAt n j st <;> simp_all [fieldOf, ← store_isSome]

theorem resolve_congr {st st' : Struct} (h : st'.map (·.1) = st.map (·.1)) {k : Text} : resolve st' k = resolve st k := by
  have names : ∀ st : Struct, resolve st k = ((st.map (·.1)).find? (· = k)).or
      ((st.map (·.1)).find? (foldName · = foldName k)) := by
    intro st
    unfold resolve
    simp only [List.find?_map, Function.comp_def]
    cases st.find? (fun f => decide (f.1 = k)) with
    | some f => rfl
    | none => cases st.find? (fun f => decide (foldName f.1 = foldName k)) <;> rfl
  rw [names, names, h]

theorem bindMember_fields (acc : Struct × Bool) (kv : Text × Json) :
    (bindMember acc kv).1.map (·.1) = acc.1.map (·.1) ∧ ∀ n,
      (resolve acc.1 kv.1 ≠ some n → (bindMember acc kv).1.find? (·.1 = n) = acc.1.find? (·.1 = n)) ∧
      ∀ j, (fieldOf (bindMember acc kv).1 n).map (typeOk · j) = (fieldOf acc.1 n).map (typeOk · j) := by
  fun_cases bindMember acc kv
  · exact ⟨rfl, fun n => ⟨fun _ => rfl, fun _ => rfl⟩⟩
  · rename_i m hm st' hs
    obtain ⟨h1, h2⟩ := storeAt_some hs
    exact ⟨h1, fun n => ⟨fun hn => (h2 n).1 fun e => hn (e ▸ hm), (h2 n).2⟩⟩
  · exact ⟨rfl, fun n => ⟨fun _ => rfl, fun _ => rfl⟩⟩

theorem finishBind_eq_none : ∀ {r : Struct × Bool}, r.2 = false → finishBind r = none
  | (_, false), _ => rfl

theorem finishBind_eq_some : ∀ {r : Struct × Bool} {m : Struct}, finishBind r = some m → r.1 = m
  | (_, true), _, rfl => rfl

theorem foldl_bindMember_false (kvs : List (Text × Json)) : ∀ acc : Struct × Bool, acc.2 = false →
    (kvs.foldl bindMember acc).2 = false := by
  induction kvs with
  | nil => exact fun _ h => h
  | cons kv kvs ih =>
    refine fun acc h => ih _ ?_
    fun_cases bindMember acc kv
    · exact h
    · exact h
    · rfl

/-- **Wrong field type ⇒ error**, for every struct and every object: if some member resolves (exactly or
by case folding) to a field whose Go type does not accept the member's JSON value, binding saves a type
error, whatever else the object holds. -/
theorem bind_wrong_type (kvs : List (Text × Json)) : ∀ acc : Struct × Bool,
    (∃ kv ∈ kvs, ∃ n, resolve acc.1 kv.1 = some n ∧ (fieldOf acc.1 n).map (typeOk · kv.2) = some false) →
    (kvs.foldl bindMember acc).2 = false := by
  induction kvs with
  | nil => exact fun _ ⟨_, hmem, _⟩ => nomatch hmem
  | cons kv0 kvs ih =>
    intro acc ⟨kv, hmem, n, hr, ht⟩
    rw [List.foldl_cons]
    rcases List.mem_cons.1 hmem with rfl | hmem
    · obtain ⟨v, hf, hv⟩ := Option.map_eq_some_iff.1 ht
      exact foldl_bindMember_false kvs _ (by simp only [bindMember, hr, storeAt_wrong_type hf hv])
    · -- the earlier member changes neither what `kv` resolves to nor the Go type of that field
      obtain ⟨hnames, hfields⟩ := bindMember_fields acc kv0
      exact ih _ ⟨kv, hmem, n, (resolve_congr hnames).trans hr, ((hfields n).2 _).trans ht⟩

/-- `rejects_*`: a member of the wrong JSON type for its field makes `Unmarshal`, hence every decoder
(`rejects_unmarshal_*`), return an error. -/
theorem unmarshal_wrong_field_type (init : Struct) (data : Text) (kvs : List (Text × Json))
    (hp : parse data = some (.obj kvs))
    (hbad : ∃ kv ∈ kvs, ∃ n v, resolve init kv.1 = some n ∧ fieldOf init n = some v ∧ typeOk v kv.2 = false) :
    unmarshalStruct init data = none := by
  obtain ⟨kv, hm, n, v, hr, hf, ht⟩ := hbad
  unfold unmarshalStruct
  rw [hp]
  exact finishBind_eq_none (bind_wrong_type kvs (init, true) ⟨kv, hm, n, hr, by rw [hf]; exact congrArg some ht⟩)

/-- non-vacuity: `{"sid":"x","CLIENTS":"8"}` has a string where the `int` field `Clients` is meant -/
example : ∃ kv ∈ [("sid".toList, Json.str "x".toList), ("CLIENTS".toList, Json.str "8".toList)],
    ∃ n v, resolve pollReqInit kv.1 = some n ∧ fieldOf pollReqInit n = some v ∧ typeOk v kv.2 = false :=
  ⟨("CLIENTS".toList, .str "8".toList), by simp, "Clients".toList, .int 0, by decide, by decide, rfl⟩

/-! ### Absent members keep the zero value -/

theorem bind_absent (n : Text) (kvs : List (Text × Json)) : ∀ acc : Struct × Bool,
    (∀ kv ∈ kvs, resolve acc.1 kv.1 ≠ some n) →
    (kvs.foldl bindMember acc).1.find? (·.1 = n) = acc.1.find? (·.1 = n) := by
  induction kvs with
  | nil => exact fun _ _ => rfl
  | cons kv0 kvs ih =>
    intro acc hno
    obtain ⟨hnames, hfields⟩ := bindMember_fields acc kv0
    rw [List.foldl_cons, ← (hfields n).1 (hno kv0 (List.mem_cons_self ..))]
    exact ih _ fun kv hk h => hno kv (List.mem_cons_of_mem _ hk) ((resolve_congr hnames).symm.trans h)

theorem unmarshal_absent_str {init : Struct} {data : Text} {kvs : List (Text × Json)} {n : Text} {message : Struct}
    (hp : parse data = some (.obj kvs)) (hno : ∀ kv ∈ kvs, resolve init kv.1 ≠ some n)
    (hm : unmarshalStruct init data = some message) : message.getStr n = init.getStr n := by
  unfold unmarshalStruct at hm
  rw [hp] at hm
  rw [← finishBind_eq_some hm, Struct.getStr, bindObj, bind_absent n kvs (init, true) hno, Struct.getStr]

/-- **Missing session id ⇒ error**: a poll request object without any member that resolves to `Sid`
(exactly or by case folding) is rejected. -/
theorem rejects_absent_sid (data : Text) (kvs : List (Text × Json)) (hp : parse data = some (.obj kvs))
    (hno : ∀ kv ∈ kvs, resolve pollReqInit kv.1 ≠ some "Sid".toList) :
    decodeProxyPollRequestWithRelayPrefix data = .err := by
  rw [decodePoll_eq]
  exact decodeVia_invalid fun m hm ⟨_, hs, _⟩ => hs (unmarshal_absent_str hp hno hm)

/-- **Missing answer ⇒ error** (answer request). -/
theorem rejects_absent_answer (data : Text) (kvs : List (Text × Json)) (hp : parse data = some (.obj kvs))
    (hno : ∀ kv ∈ kvs, resolve answerReqInit kv.1 ≠ some "Answer".toList) :
    decodeAnswerRequest data = .err := by
  rw [decodeAnswerReq_eq]
  exact decodeVia_invalid fun m hm ⟨_, hsa⟩ => hsa (.inr (unmarshal_absent_str hp hno hm))

/-- **Missing offer ⇒ error** (client poll request body). -/
theorem rejects_absent_offer (data body : Text) (kvs : List (Text × Json))
    (hs : splitN2 data = [clientVersion, body]) (hp : parse body = some (.obj kvs))
    (hno : ∀ kv ∈ kvs, resolve clientReqInit kv.1 ≠ some "offer".toList) :
    decodeClientPollRequest data = .err := by
  rw [decodeClientReq_eq hs, if_pos rfl]
  exact decodeVia_invalid fun m hm ⟨ho, _⟩ => ho (unmarshal_absent_str hp hno hm)

/-- **Neither answer nor error ⇒ error** (client poll response), at the level of object members. -/
theorem rejects_absent_answer_and_error (data : Text) (kvs : List (Text × Json)) (hp : parse data = some (.obj kvs))
    (hna : ∀ kv ∈ kvs, resolve clientRespInit kv.1 ≠ some "answer".toList)
    (hne : ∀ kv ∈ kvs, resolve clientRespInit kv.1 ≠ some "error".toList) :
    decodeClientPollResponse data = .err := by
  rw [decodeClientResp_eq]
  exact decodeVia_invalid fun m hm h =>
    h ⟨unmarshal_absent_str hp hne hm, unmarshal_absent_str hp hna hm⟩

theorem hexDecodeString_length (s : Text) :
    (hexDecodeString s).map List.length =
      if s.length % 2 = 0 ∧ ∀ c ∈ s, (hexVal c).isSome = true then some (s.length / 2) else none := by
  fun_induction hexDecodeString s with
  | case1 => simp
  | case2 c => simp
  | case3 a b r x y bs hr hx hy ih =>
    -- two digits more: one byte more, the parity of the length unchanged
    simp_all
    omega
  | case4 a b r hno ih =>
    refine (if_neg fun ⟨hev, hall⟩ => ?_).symm
    obtain ⟨x, hx⟩ := Option.isSome_iff_exists.1 (hall a (.head _))
    obtain ⟨y, hy⟩ := Option.isSome_iff_exists.1 (hall b (.tail _ (.head _)))
    rw [if_pos ⟨by simp only [List.length_cons] at hev; omega, fun c hc => hall c (.tail _ (.tail _ hc))⟩] at ih
    obtain ⟨bs, hbs, _⟩ := Option.map_eq_some_iff.1 ih
    exact hno x y bs hx hy hbs

/-- **The fingerprint test**: accepted iff the text consists of 40 or 64 hexadecimal digits (either
case), i.e. is the hex form of 20 or 32 bytes. -/
theorem fingerprintOk_iff (s : Text) :
    fingerprintOk s = true ↔ (s.length = 40 ∨ s.length = 64) ∧ ∀ c ∈ s, (hexVal c).isSome = true := by
  have hl := hexDecodeString_length s
  unfold fingerprintOk fingerprintLenBad
  cases hd : hexDecodeString s with
  | none =>
    simp [hd] at hl ⊢
    exact fun h => hl (by omega)
  | some bs =>
    simp [hd] at hl ⊢
    exact ⟨fun h => ⟨by omega, hl.1.2⟩, fun h => by omega⟩

/-- The round trip on raw bytes, through the `[]byte`/`string` conversions, for every valid-UTF-8 Go string.
Shown for the poll request only; the others would follow in the same way from `Utf8.decodeLossy_encode`
and `Utf8.decodeItems_encode`. -/
theorem proxy_poll_rt_bytes (sid ptype nat pattern : Text) (clients : Int) (hc : IntRange clients)
    (hsid : sid ≠ []) (hnat : NatValid nat) :
    decodeProxyPollRequestWithRelayPrefix (Utf8.decodeLossy (Utf8.encode
        (encodeProxyPollRequestWithRelayPrefix (Utf8.decodeItems (Utf8.encode sid)) (Utf8.decodeItems (Utf8.encode ptype))
          (Utf8.decodeItems (Utf8.encode nat)) clients (Utf8.decodeItems (Utf8.encode pattern)))))
      = .ok { sid := sid, proxyType := normType ptype, natType := normNat nat, clients := clients,
              relayPrefix := pattern, relayPrefixAware := true } := by
  simp only [Utf8.decodeLossy_encode, Utf8.decodeItems_encode]
  exact proxy_poll_rt sid ptype nat pattern clients hc hsid hnat

/-- **No decoder panics**, on any input text (bytes reach the model through `Utf8.decodeLossy`).  In the
model a panic can arise only from indexing the results of `strings.Split` / `bytes.SplitN`. -/
theorem decoders_total (data : Text) :
    decodeProxyPollRequestWithRelayPrefix data ≠ .panic ∧ decodeProxyPollRequest data ≠ .panic ∧
    decodePollResponseWithRelayURL data ≠ .panic ∧ decodePollResponse data ≠ .panic ∧
    decodeAnswerRequest data ≠ .panic ∧ decodeAnswerResponse data ≠ .panic ∧
    decodeClientPollRequest data ≠ .panic ∧ decodeClientPollResponse data ≠ .panic := by
  have poll : decodeProxyPollRequestWithRelayPrefix data ≠ .panic := by rw [decodePoll_eq]; exact decodeVia_ne_panic
  have resp : decodePollResponseWithRelayURL data ≠ .panic := by
    cases hm : unmarshalStruct pollRespInit data with
    | none => rw [rejects_unmarshal_pollresp data hm]; nofun
    | some m =>
      rw [decodePollResp_some hm]
      repeat' split
      all_goals nofun
  refine ⟨poll, ?_, resp, ?_, by rw [decodeAnswerReq_eq]; exact decodeVia_ne_panic,
    by rw [decodeAnswerResp_eq]; exact decodeVia_ne_panic, ?_, by rw [decodeClientResp_eq]; exact decodeVia_ne_panic⟩
  · -- the legacy decoders only pass on what the new ones return
    unfold decodeProxyPollRequest
    split
    · split <;> nofun
    · nofun
    · exact absurd ‹_› poll
  · unfold decodePollResponse
    split
    · split <;> nofun
    · split <;> nofun
    · nofun
    · exact absurd ‹_› resp
  · rcases splitN2_cases data with ⟨x, hs⟩ | ⟨v, body, hs⟩
    · rw [decodeClientReq_short hs]; nofun
    · rw [decodeClientReq_eq hs]
      split
      · exact decodeVia_ne_panic
      · nofun

example : decodeProxyPollRequestWithRelayPrefix
    "{\"Sid\":\"ymbcCMto7KHNGYlp\",\"Version\":\"1.2\",\"Type\":\"standalone\",\"NAT\":\"restricted\",\"Clients\":8}".toList
    = .ok { sid := "ymbcCMto7KHNGYlp".toList, proxyType := "standalone".toList, natType := natRestricted, clients := 8,
            relayPrefix := [], relayPrefixAware := false } := by decide +kernel
example : decodeProxyPollRequestWithRelayPrefix "{\"Sid\":\"x\",\"Version\":\"2.0\"}".toList = .err := by decide +kernel
example : decodeProxyPollRequestWithRelayPrefix "{\"Sid\":\"x\",\"Version\":\"1.0\",\"Clients\":1.5}".toList = .err := by
  decide +kernel
example : decodeProxyPollRequestWithRelayPrefix "{\"sid\":\"x\",\"VERſION\":\"1\",\"AcceptedRelayPattern\":null}".toList
    = .ok { sid := "x".toList, proxyType := proxyUnknown, natType := natUnknown, clients := 0, relayPrefix := [],
            relayPrefixAware := false } := by decide +kernel
example : decodeClientPollRequest "1.0\n{\"offer\":\"o\",\"fingerprint\":\"zz\"}".toList = .err := by decide +kernel
example : decodeClientPollRequest "1.1\n{\"offer\":\"o\"}".toList = .err := by decide +kernel
example : decodeClientPollResponse "{}".toList = .err := by decide +kernel
example : decodePollResponseWithRelayURL "[]".toList = .err := by decide +kernel

/-! ### No two valid messages share an encoding

The broker pairs a client with a proxy by what these messages carry; were two valid messages encoded alike,
the receiver could not tell which offer, answer, session id, relay URL or fingerprint was meant. -/

theorem answer_req_injective (a s a' s' : Text) (ha : a ≠ []) (hs : s ≠ []) (ha' : a' ≠ []) (hs' : s' ≠ [])
    (h : encodeAnswerRequest (ofText a) (ofText s) = encodeAnswerRequest (ofText a') (ofText s')) :
    a = a' ∧ s = s' :=
  Prod.mk.inj (Res.ok.inj (decoded_eq decodeAnswerRequest h (answer_req_rt a s ha hs) (answer_req_rt a' s' ha' hs')))

theorem client_resp_injective (a e a' e' : Text) (h1 : a ≠ [] ∨ e ≠ []) (h2 : a' ≠ [] ∨ e' ≠ [])
    (h : encodeClientPollResponse (ofText a) (ofText e) = encodeClientPollResponse (ofText a') (ofText e')) :
    a = a' ∧ e = e' :=
  Prod.mk.inj (Res.ok.inj (decoded_eq decodeClientPollResponse h (client_resp_rt a e h1) (client_resp_rt a' e' h2)))

theorem poll_resp_match_injective (o n u r o' n' u' r' : Text) (ho : o ≠ []) (ho' : o' ≠ [])
    (h : encodePollResponseWithRelayURL (ofText o) true (ofText n) (ofText u) (ofText r)
       = encodePollResponseWithRelayURL (ofText o') true (ofText n') (ofText u') (ofText r')) :
    o = o' ∧ normNat n = normNat n' ∧ u = u' :=
  PollResponse.ok.inj (decoded_eq decodePollResponseWithRelayURL h (proxy_poll_resp_match_rt o n u r ho)
    (proxy_poll_resp_match_rt o' n' u' r' ho'))

theorem client_req_injective (o n f o' n' f' : Text) (ho : o ≠ []) (ho' : o' ≠ []) (hn : NatValid n) (hn' : NatValid n')
    (hf : f = [] ∨ fingerprintOk f = true) (hf' : f' = [] ∨ fingerprintOk f' = true)
    (h : encodeClientPollRequest (ofText o) (ofText n) (ofText f)
       = encodeClientPollRequest (ofText o') (ofText n') (ofText f')) :
    o = o' ∧ normNat n = normNat n' ∧ normFingerprint f = normFingerprint f' :=
  ClientRequest.mk.inj (Res.ok.inj
    (decoded_eq decodeClientPollRequest h (client_req_rt o n f ho hn hf) (client_req_rt o' n' f' ho' hn' hf')))

theorem answer_resp_injective (a b : Bool) (h : encodeAnswerResponse a = encodeAnswerResponse b) : a = b :=
  Res.ok.inj (decoded_eq decodeAnswerResponse h (answer_resp_rt a) (answer_resp_rt b))

theorem proxy_poll_injective (sid ty nat pat sid' ty' nat' pat' : Text) (c c' : Int) (hc : IntRange c) (hc' : IntRange c')
    (hs : sid ≠ []) (hs' : sid' ≠ []) (hn : NatValid nat) (hn' : NatValid nat')
    (h : encodeProxyPollRequestWithRelayPrefix (ofText sid) (ofText ty) (ofText nat) c (ofText pat)
       = encodeProxyPollRequestWithRelayPrefix (ofText sid') (ofText ty') (ofText nat') c' (ofText pat')) :
    sid = sid' ∧ normType ty = normType ty' ∧ normNat nat = normNat nat' ∧ c = c' ∧ pat = pat' :=
  let ⟨e1, e2, e3, e4, e5, _⟩ := PollRequest.mk.inj (Res.ok.inj (decoded_eq decodeProxyPollRequestWithRelayPrefix h
    (proxy_poll_rt sid ty nat pat c hc hs hn) (proxy_poll_rt sid' ty' nat' pat' c' hc' hs' hn')))
  ⟨e1, e2, e3, e4, e5⟩

end Snowflake.Messages.C12
