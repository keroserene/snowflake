import Snowflake.Proofs.Server
/-!
# C05 — the server binds packets to sessions by ClientID; sessions never mix

Theorems about every reachable state of `Snowflake.Model.Server` (any number of carriers, any
interleaving of deliveries, cuts, handler steps, KCP reads and writes; any byte content).
-/
namespace Snowflake.Server.C05
open Snowflake.Server Snowflake.Encap

structure Inv (st : St) : Prop where
  cok : ∀ q, COK st.token (st.cs q)
  gok : GOK st
  gok2 : GOK2 st

theorem inv_init (token : Bytes) (qs : Nat) : Inv (init token qs) := by
  refine ⟨fun _ => cok_default token, ?_, ?_⟩
  · constructor <;> simp [init]
  · constructor; simp [init]

theorem inv_step {st st' : St} (l : Lab) (hs : step st l = some st') (hi : Inv st) : Inv st' :=
  have s := Step.of_step hs
  ⟨cok_step s hi.cok, gok_step s hi.cok hi.gok hi.gok2, gok2_step s hi.gok2 hi.gok⟩

theorem inv_reachable {token : Bytes} {qs : Nat} {st : St} (h : Reachable token qs st) : Inv st := by
  induction h with
  | init => exact inv_init token qs
  | step l _ hs ih => exact inv_step l hs ih

variable {token : Bytes} {qs : Nat} {st : St}

theorem token_reachable (h : Reachable token qs st) : st.token = token := by
  induction h with
  | init => rfl
  | step l _ hs ih => rw [token_step (Step.of_step hs), ih]

/-- **Upstream exactness.** What a carrier passed to `QueueIncoming` is exactly the sequence of
complete data chunks of a *prefix* of the bytes it delivered after its 16-byte preface: a cut at any
byte offset yields the packets before the cut. -/
theorem upstream_exact (hr : Reachable token qs st) (k : Nat) (id : CID)
    (h : (st.cs k).presented = some id) :
    ∃ fr, (token ++ id ++ fr) <+: (st.cs k).allIn ∧ decodeAll fr = ((st.cs k).queued, .eof) := by
  have hi := inv_reachable hr
  refine ⟨(st.cs k).frames, ?_, frames_decode (hi.cok k).frames⟩
  rw [(hi.cok k).split, (hi.cok k).some id h, token_reachable hr]
  exact ⟨(st.cs k).buf, rfl⟩

/-- **Upstream attribution.** Every packet waiting in the shared incoming queue under tag `id` was
decoded on a carrier whose byte stream began with the token followed by exactly that `id`. -/
theorem incoming_tag_is_carrier_prefix (hr : Reachable token qs st) (p : Bytes) (id : CID)
    (h : (p, id) ∈ st.inq) :
    ∃ k, (st.cs k).presented = some id ∧ (token ++ id) <+: (st.cs k).allIn ∧ p ∈ (st.cs k).queued := by
  have hi := inv_reachable hr
  obtain ⟨k, hk⟩ := hi.gok.inq p id h
  have h1 := hi.gok.hist p id k hk
  obtain ⟨fr, hfr, _⟩ := upstream_exact hr k id h1.1
  exact ⟨k, h1.1, (List.prefix_append _ fr).trans hfr, h1.2⟩

/-- **No token, no packets.** A carrier that has not presented the token and a ClientID contributed
nothing to the incoming queue and was sent nothing; and presenting means the stream really began
with the token. -/
theorem no_token_no_packets (hr : Reachable token qs st) (k : Nat) :
    ((st.cs k).presented = none → (st.cs k).queued = [] ∧ (st.cs k).written = [])
    ∧ (∀ id, (st.cs k).presented = some id → token <+: (st.cs k).allIn) := by
  have hi := inv_reachable hr
  refine ⟨fun h => ⟨((hi.cok k).none h).1, ((hi.cok k).none h).2.1⟩, ?_⟩
  intro id h
  obtain ⟨fr, hfr, _⟩ := upstream_exact hr k id h
  exact ((List.prefix_append token id).trans (List.prefix_append _ fr)).trans hfr

/-- **Downstream attribution.** The packets framed onto a carrier that presented `id` are, in order,
packets KCP addressed to that very `id` (a sub-sequence of what `WriteTo(_, id)` enqueued). -/
theorem downstream_only_to_same_id (hr : Reachable token qs st) (k : Nat) (id : CID)
    (h : (st.cs k).presented = some id) : List.Sublist (st.cs k).written (st.enq id) := by
  have hi := inv_reachable hr
  exact (hi.gok.written k id h).trans (List.take_sublist _ _)

/-- **Isolation.** Nothing reaches a carrier of session `id` through this layer unless KCP addressed it to
`id`. -/
theorem isolation (hr : Reachable token qs st) (k : Nat) (id : CID) (p : Bytes)
    (h : (st.cs k).presented = some id) (hp : p ∈ (st.cs k).written) : p ∈ st.enq id :=
  (downstream_only_to_same_id hr k id h).subset hp

/-- **Per-session FIFO, no duplication.** The outgoing queue of `id` is exactly what was enqueued for
`id` minus what has been taken, in order. -/
theorem outgoing_fifo (hr : Reachable token qs st) (id : CID) :
    st.outq id = (st.enq id).drop (st.deq id) ∧ st.deq id ≤ (st.enq id).length :=
  ⟨(inv_reachable hr).gok.fifo id, (inv_reachable hr).gok2.deqle id⟩

/-- **The queue survives carrier changes.** Carriers opening, delivering bytes, being cut, and
handler steps never touch any outgoing queue: packets queued for `id` wait for the next carrier that
presents `id`. -/
theorem queue_survives_carrier_change {st' : St} (l : Lab) (hs : step st l = some st')
    (hl : match l with | .open _ | .recv _ _ | .cut _ | .hStep _ => True | _ => False) :
    st'.outq = st.outq := by
  cases Step.of_step hs with
  | carrier | accept => rfl
  | _ => cases hl

/-! ## Non-vacuity: two carriers of two sessions, one cut mid-frame -/

/-- `turbotunnel.Token` (`Tie.ServerHttp.token_tie`) -/
def tok : Bytes := [0x12, 0x93, 0x60, 0x5d, 0x27, 0x81, 0x75, 0xf5]
def idA : CID := [1, 1, 1, 1, 1, 1, 1, 1]
def idB : CID := [1, 1, 1, 1, 1, 1, 1, 2]

example :
    (runL (init tok 4)
      [.open 0, .open 1, .recv 0 (tok ++ idA ++ [0x82, 7, 7, 0x81]), .recv 1 (tok ++ idB ++ [0x81, 9]),
       .hStep 0, .hStep 0, .hStep 0, .hStep 1, .hStep 1, .hStep 1, .cut 0, .hStep 0,
       .kcpWrite [5] idB, .wStep 1]).map
      (fun st => st.inq == [([7, 7], idA), ([9], idB)] && (st.cs 0).queued == [[7, 7]]
        && (st.cs 0).pc == .closed && (st.cs 1).written == [[5]] && st.outq idA == [] && (st.cs 0).written == [])
    = some true := by decide +kernel

end Snowflake.Server.C05
