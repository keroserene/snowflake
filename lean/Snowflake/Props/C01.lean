import Snowflake.Props.C05
import Snowflake.Model.Reasm
import Snowflake.Props.C09
/-!
# C01 — end-to-end byte stream exact and ordered across proxy churn  (proof-partial)

Snowflake's own code implements an *honest lossy datagram service per ClientID* over a sequence of
carriers; KCP + smux (third-party) turn such a service into a reliable ordered stream.  The second half
is reduced to two explicit hypotheses on the third-party layer (numbered-segment datagram codec,
retransmission until delivered) by the reassembly argument at the end of this file (`e2e_prefix_safe`,
`e2e_never_taken_back`, `e2e_exact_partial` over `Model/Reasm.lean`).  The first half is proved on
the models of the framing (`Encap`) and of the server's carrier layer (`Server`):

* `frames_prefix_closed` – a carrier cut after *any* byte offset (inside the preface is handled by the
  server model, inside a frame here) yields exactly the packets before the cut: never a partial,
  altered, merged or reordered one;
* `honest_lossy_upstream` – what reaches the peer's KCP from carrier `k` under tag `id` is a prefix (in
  order, byte-identical) of what the client's KCP wrote on `k`, whenever the carrier delivered a prefix
  of the client's byte stream `Token ++ ClientID ++ frames`;
* `honest_lossy_downstream` – the frames written to a carrier that presented `id` are, in order, packets
  the server's KCP addressed to `id`, and a client reading any prefix of them through any
  contract-respecting reader gets exactly the packets before the cut.
-/
namespace Snowflake.C01
open Snowflake.Encap Snowflake.Server

def dataItems (ps : List Bytes) : List Item := ps.map .data

theorem dataOf_dataItems (ps : List Bytes) : dataOf (dataItems ps) = ps := by
  induction ps with
  | nil => rfl
  | cons p ps ih => simp [dataItems, dataOf] at ih ⊢; exact ih

theorem encodeItems_cons (it : Item) (is : List Item) : encodeItems (it :: is) = encodeItem it ++ encodeItems is :=
  Encap.encodeItems_cons it is

theorem decodeAll_short (bs : Bytes) (h : parsePrefix bs = .short) : decodeAll bs = ([], .unexpectedEOF) := by
  simp [decodeAll, decodeFuel, next, h]

/-- A strict, non-empty prefix of one encoded data chunk decodes to no chunk and `unexpectedEOF`. -/
theorem decodeAll_partial_frame (d : Bytes) (hd : d.length < 1048576) (k : Nat) (hk0 : 0 < k)
    (hk : k < (encodeItem (.data d)).length) :
    decodeAll ((encodeItem (.data d)).take k) = ([], .unexpectedEOF) := by
  obtain ⟨p, hp, -⟩ := dataPrefix_some hd
  obtain ⟨pre, hpre, -, hloc, hshort⟩ := parsePrefix_local (parsePrefix_prefixFor 128 _ p [] (Or.inr rfl) hp)
  obtain rfl : p = pre := by simpa using hpre
  have henc : encodeItem (.data d) = p ++ d := by simp [encodeItem, encodeData, hp]
  rw [henc, List.length_append] at hk
  rw [henc, List.take_append]
  by_cases hkp : p.length ≤ k
  · -- the whole prefix is there, the body is short
    rw [List.take_of_length_le hkp, decodeAll_eq, next_succ_ok (hloc _),
      if_pos (by rw [List.length_take]; omega)]
  · -- cut inside the length prefix
    rw [show k - p.length = 0 by omega, List.take_zero, List.append_nil]
    exact decodeAll_short _ (hshort k hk0 (by omega))

/-- **Framing is prefix-closed.** For every sequence of packets (each shorter than 2^20) and every cut
offset `k`, decoding the first `k` bytes of their concatenated encodings yields exactly the first `j`
packets for some `j`, with status `eof` (cut at a chunk boundary) or `unexpectedEOF` (cut inside a chunk). -/
theorem frames_prefix_closed : ∀ (ps : List Bytes), (∀ p ∈ ps, p.length < 1048576) → ∀ k,
    ∃ j, (decodeAll ((encodeItems (dataItems ps)).take k)).1 = ps.take j
      ∧ ((decodeAll ((encodeItems (dataItems ps)).take k)).2 = .eof
         ∨ (decodeAll ((encodeItems (dataItems ps)).take k)).2 = .unexpectedEOF) := by
  intro ps hps k
  have h := C09.roundtrip (dataItems ps) (by simpa [dataItems, Item.ok] using hps)
  rw [dataOf_dataItems] at h
  exact decodeAll_take h k

variable {token : Bytes} {qs : Nat} {st : St}

/-- **Honest lossy service, upstream.** If carrier `k` presented `id` and the bytes it delivered are a
prefix of the stream the client writes on a carrier (`Token ++ ClientID ++` one frame per packet of
`ps`, in order), then what the server passed to `QueueIncoming` from `k` is exactly `ps.take j` for some
`j`: an in-order, byte-identical prefix. -/
theorem honest_lossy_upstream (hr : Reachable token qs st) (k : Nat) (id : CID) (ps : List Bytes)
    (hps : ∀ p ∈ ps, p.length < 1048576) (hpres : (st.cs k).presented = some id)
    (hpre : (st.cs k).allIn <+: token ++ id ++ encodeItems (dataItems ps)) :
    ∃ j, (st.cs k).queued = ps.take j := by
  obtain ⟨fr, hfr, hdec⟩ := C05.upstream_exact hr k id hpres
  have h1 : (token ++ id ++ fr) <+: (token ++ id ++ encodeItems (dataItems ps)) := hfr.trans hpre
  have h2 : fr <+: encodeItems (dataItems ps) := by
    rw [List.append_assoc, List.append_assoc] at h1
    exact (List.prefix_append_right_inj _).mp ((List.prefix_append_right_inj _).mp h1)
  have h3 : fr = (encodeItems (dataItems ps)).take fr.length := (List.prefix_iff_eq_take.mp h2)
  obtain ⟨j, hj, _⟩ := frames_prefix_closed ps hps fr.length
  rw [← h3, hdec] at hj
  exact ⟨j, hj⟩

/-- **Honest lossy service, downstream.** The packets framed onto a carrier that presented `id` are an
in-order sub-sequence of what the server's KCP wrote for `id`; and whatever prefix of those frames the
carrier delivers, through whatever fragmentation, the client's `ReadData` loop returns exactly the
packets before the cut. -/
theorem honest_lossy_downstream (hr : Reachable token qs st) (k : Nat) (id : CID)
    (hpres : (st.cs k).presented = some id) (hw : ∀ p ∈ (st.cs k).written, p.length < 1048576)
    (cut : Nat) (sc : Script) :
    List.Sublist (st.cs k).written (st.enq id)
    ∧ ∃ j, (readAll true (((encodeItems (dataItems (st.cs k).written)).take cut).length + 1)
              ⟨(encodeItems (dataItems (st.cs k).written)).take cut, sc⟩).1 = (st.cs k).written.take j := by
  refine ⟨C05.downstream_only_to_same_id hr k id hpres, ?_⟩
  obtain ⟨j, hj, _⟩ := frames_prefix_closed (st.cs k).written hw cut
  refine ⟨j, ?_⟩
  rw [Encap.C09.fragmentation_independent _ _ _ (Nat.lt_succ_self _)]
  exact hj

/-! ## From honest lossy carriers to the exact stream

The reliability layer (kcp-go under smux) is third-party code and is not modelled line by line.  What the
property needs from it is isolated as two explicit assumptions: its datagrams carry numbered segments that
decode back to what was encoded (`SegCodec`), and it keeps retransmitting, so that every segment eventually
gets through while some working proxy is available (`hall` below).  Everything else is proved: `hds` of the
`e2e_*` theorems is what the carrier layer gives, carrier by carrier (`upstream_only_sent`,
`downstream_only_sent`); the union over a session's carriers is not formalised. -/

/-- Upstream: everything the server queued for KCP from carrier `k` is one of the packets the client wrote. -/
theorem upstream_only_sent (hr : Reachable token qs st) (k : Nat) (id : CID) (ps : List Bytes)
    (hps : ∀ p ∈ ps, p.length < 1048576) (hpres : (st.cs k).presented = some id)
    (hpre : (st.cs k).allIn <+: token ++ id ++ encodeItems (dataItems ps)) :
    ∀ d ∈ (st.cs k).queued, d ∈ ps := by
  obtain ⟨j, hj⟩ := honest_lossy_upstream hr k id ps hps hpres hpre
  intro d hd
  rw [hj] at hd
  exact List.mem_of_mem_take hd

/-- Downstream: everything framed onto a carrier that presented `id` is one of the packets the server's KCP wrote
for `id`. -/
theorem downstream_only_sent (hr : Reachable token qs st) (k : Nat) (id : CID)
    (hpres : (st.cs k).presented = some id) :
    ∀ d ∈ (st.cs k).written, d ∈ st.enq id :=
  fun d => C05.isolation hr k id d hpres

/-- **Assumption 1 on the reliability layer**: its datagrams carry a segment number and a payload and decode
back to what was encoded.  (kcp-go's header carries `sn`; smux frames ride inside the KCP byte stream.) -/
structure SegCodec where
  enc : Nat → Bytes → Bytes
  dec : Bytes → Option (Nat × Bytes)
  dec_enc : ∀ i p, dec (enc i p) = some (i, p)

open Snowflake.Reasm in
/-- Datagrams written by the peer, each the encoding of some segment under its own number, decode to honest
arrivals, whichever of them get through, in whatever order and multiplicity. -/
theorem arrivals_honest (c : SegCodec) (segs : List Bytes) (sent ds : List Bytes)
    (hsent : ∀ pkt ∈ sent, ∃ i p, segs[i]? = some p ∧ pkt = c.enc i p)
    (hds : ∀ d ∈ ds, d ∈ sent) :
    Honest segs (ds.filterMap c.dec) := by
  intro e he
  obtain ⟨d, hd, hdec⟩ := List.mem_filterMap.mp he
  obtain ⟨i, p, hip, hpk⟩ := hsent d (hds d hd)
  rw [hpk, c.dec_enc] at hdec
  cases hdec
  exact hip

open Snowflake.Reasm in
/-- **C01, safety.** Whatever the carriers did, the bytes handed to the reader are at every moment a
whole-segment prefix of the bytes written at the other end: nothing missing in the middle, duplicated, reordered
or foreign. -/
theorem e2e_prefix_safe (c : SegCodec) (segs : List Bytes) (sent ds : List Bytes)
    (hsent : ∀ pkt ∈ sent, ∃ i p, segs[i]? = some p ∧ pkt = c.enc i p)
    (hds : ∀ d ∈ ds, d ∈ sent) (n : Nat) :
    ∃ k, delivered (run init (ds.filterMap c.dec)) n = (segs.take k).flatten :=
  delivered_prefix (sound_run _ _ (sound_init segs) (arrivals_honest c segs sent ds hsent hds)) n

open Snowflake.Reasm in
/-- **C01, exactly once.** Bytes already handed to the reader are never taken back or changed by anything that
arrives later. -/
theorem e2e_never_taken_back (c : SegCodec) (ds later : List Bytes) (n : Nat) :
    delivered (run init (ds.filterMap c.dec)) n <+: delivered (run init ((ds ++ later).filterMap c.dec)) n := by
  rw [List.filterMap_append, run_append]
  exact delivered_mono _ _ n

open Snowflake.Reasm in
/-- **C01, exactness (partial: relative to Assumption 2).** If moreover every segment got through at least once
— *Assumption 2 on the reliability layer*: it retransmits until acknowledged, and some working proxy
eventually becomes available — the reader has been handed exactly the written stream. -/
theorem e2e_exact_partial (c : SegCodec) (segs : List Bytes) (sent ds : List Bytes)
    (hsent : ∀ pkt ∈ sent, ∃ i p, segs[i]? = some p ∧ pkt = c.enc i p)
    (hds : ∀ d ∈ ds, d ∈ sent)
    (hall : ∀ i, i < segs.length → ∃ p, c.enc i p ∈ ds)
    (n : Nat) (hn : segs.length ≤ n) :
    delivered (run init (ds.filterMap c.dec)) n = segs.flatten := by
  refine delivered_exact (sound_run _ _ (sound_init segs) (arrivals_honest c segs sent ds hsent hds)) ?_ n hn
  intro i hi
  obtain ⟨p, hp⟩ := hall i hi
  apply run_holds
  right
  exact ⟨p, List.mem_filterMap.mpr ⟨c.enc i p, hp, c.dec_enc i p⟩⟩

example : ∃ j, (decodeAll ((encodeItems (dataItems [[1, 2, 3], [4]])).take 5)).1 = [[1, 2, 3], [4]].take j :=
  ⟨1, by decide +kernel⟩

/-- A concrete codec (segment number in unary, then a zero byte): `SegCodec` is inhabited. -/
def encU (i : Nat) (p : Bytes) : Bytes := List.replicate i 1 ++ 0 :: p

def decU : Bytes → Option (Nat × Bytes)
  | [] => none
  | b :: rest => if b = 0 then some (0, rest) else
      match decU rest with
      | some (i, p) => some (i + 1, p)
      | none => none

theorem decU_encU : ∀ (i : Nat) (p : Bytes), decU (encU i p) = some (i, p) := by
  intro i
  induction i with
  | zero => intro p; simp [encU, decU]
  | succ i ih =>
    intro p
    have : encU (i + 1) p = 1 :: encU i p := by simp [encU, List.replicate_succ]
    rw [this, decU, ih p]
    simp

def demoCodec : SegCodec := ⟨encU, decU, decU_encU⟩

/-- The hypotheses of the composition are satisfiable with loss, duplication and reordering: three segments; the
datagrams arrive as 2, 0, 0, 1 (the first copy of 1 was lost); the reader gets exactly the written stream. -/
example :
    let segs : List Bytes := [[10], [20, 21], [30]]
    let sent : List Bytes := [encU 0 [10], encU 1 [20, 21], encU 1 [20, 21], encU 2 [30]]
    let ds : List Bytes := [encU 2 [30], encU 0 [10], encU 0 [10], encU 1 [20, 21]]
    (∀ pkt ∈ sent, ∃ i p, segs[i]? = some p ∧ pkt = demoCodec.enc i p)
    ∧ (∀ d ∈ ds, d ∈ sent)
    ∧ (∀ i, i < segs.length → ∃ p, demoCodec.enc i p ∈ ds)
    ∧ Reasm.delivered (Reasm.run Reasm.init (ds.filterMap demoCodec.dec)) 3 = segs.flatten := by
  refine ⟨?_, ?_, ?_, by decide +kernel⟩
  · intro pkt h
    simp only [List.mem_cons, List.not_mem_nil, or_false] at h
    rcases h with rfl | rfl | rfl | rfl
    · exact ⟨0, [10], rfl, rfl⟩
    · exact ⟨1, [20, 21], rfl, rfl⟩
    · exact ⟨1, [20, 21], rfl, rfl⟩
    · exact ⟨2, [30], rfl, rfl⟩
  · decide +kernel
  · intro i hi
    have : i = 0 ∨ i = 1 ∨ i = 2 := by simp at hi; omega
    rcases this with rfl | rfl | rfl
    · exact ⟨[10], by decide +kernel⟩
    · exact ⟨[20, 21], by decide +kernel⟩
    · exact ⟨[30], by decide +kernel⟩

/-- Before the lost segment is retransmitted the reader holds a strict prefix (segment 0 only), not garbage. -/
example : Reasm.delivered (Reasm.run Reasm.init ([encU 2 [30], encU 0 [10], encU 0 [10]].filterMap demoCodec.dec)) 3 = [10] := by
  decide +kernel

end Snowflake.C01
