import Snowflake.Model.BrokerHttp
/-!
# C14 — every HTTP request to the broker gets a well-formed response

About `Snowflake.Model.BrokerHttp`, the model of the handlers in `broker/http.go` and `broker/amp.go`
around the IPC core; the core is abstract, every behaviour of it is quantified over.  That the core calls
return in bounded time is C04.
-/
namespace Snowflake.BrokerHttp.C14

def okStatus (s : Nat) : Prop := s = 200 ∨ s = 400 ∨ s = 404 ∨ s = 500 ∨ s = 503 ∨ s = 504

/-- **Proxy poll / proxy answer endpoints always respond**, with 200, 400 or 500. -/
theorem proxy_always_responds (isOptions tooLarge : Bool) (core : CoreRes) :
    ∃ s b, serve isOptions (proxyShell tooLarge core) = .reply s b ∧ (s = 200 ∨ s = 400 ∨ s = 500) := by
  unfold serve proxyShell
  cases isOptions <;> cases tooLarge <;> cases core <;> simp

/-- **The client endpoint always responds** (repaired shim), with one of the six status codes: never a
dropped connection. -/
theorem client_always_responds (isOptions tooLarge : Bool) (body natHeader : Bytes)
    (encodeReq : Bytes → Bytes → Option Bytes) (core : Bytes → ClientCore) :
    ∃ s b, serve isOptions (clientShell true tooLarge body natHeader encodeReq core) = .reply s b ∧ okStatus s := by
  unfold serve clientShell legacyMap okStatus
  cases isOptions <;> simp
  cases tooLarge <;> simp
  repeat' split
  all_goals simp

/-- Bodies over the limit are refused with 400 on all three POST endpoints, whatever they contain. -/
theorem oversized_body_is_400 (body natHeader : Bytes) (encodeReq : Bytes → Bytes → Option Bytes)
    (core : Bytes → ClientCore) (pcore : CoreRes) (fixed : Bool) :
    clientShell fixed true body natHeader encodeReq core = .reply 400 []
    ∧ proxyShell true pcore = .reply 400 [] := by
  simp [clientShell, proxyShell]

/-- **A legacy request is treated exactly like its versioned equivalent** `arg`, the shim's encoding of
`(body, NAT header)`: the core gets the same `Arg.Body`, the versioned request is answered 200 with the
core's response, the legacy one with the image of that response under the status map. -/
theorem legacy_equiv (body natHeader arg : Bytes) (encodeReq : Bytes → Bytes → Option Bytes)
    (core : Bytes → ClientCore) (hleg : isLegacy body = true) (harg : encodeReq body natHeader = some arg)
    (hver : isLegacy arg = false) (r : ClientResp) (raw : Bytes) (hcore : core arg = .resp r raw)
    (hdec : ¬ (r.answer = [] ∧ r.error = [])) :
    clientShell true false arg natHeader encodeReq core = .reply 200 raw
    ∧ clientShell true false body natHeader encodeReq core = legacyMap true r := by
  constructor
  · simp [clientShell, hver, hcore]
  · simp [clientShell, hleg, harg, hcore, hdec]

/-- …and when the core fails, both forms get 500. -/
theorem legacy_equiv_err (body natHeader arg : Bytes) (encodeReq : Bytes → Bytes → Option Bytes)
    (core : Bytes → ClientCore) (hleg : isLegacy body = true) (harg : encodeReq body natHeader = some arg)
    (hver : isLegacy arg = false) (hcore : core arg = .err) :
    clientShell true false arg natHeader encodeReq core = .reply 500 []
    ∧ clientShell true false body natHeader encodeReq core = .reply 500 [] := by
  constructor
  · simp [clientShell, hver, hcore]
  · simp [clientShell, hleg, harg, hcore]

/-- The legacy status map of the repaired shim never drops the connection: it replies 200, 503, 504 or 400. -/
theorem legacyMap_total (r : ClientResp) : ∃ s b, legacyMap true r = .reply s b ∧ (s = 200 ∨ s = 503 ∨ s = 504 ∨ s = 400) := by
  unfold legacyMap
  repeat' split
  all_goals simp_all

theorem amp_status (hasPrefix : Bool) (decoded : Option Bytes) (core : Bytes → ClientCore) :
    ampShell hasPrefix decoded core = 200 ∨ ampShell hasPrefix decoded core = 500 := by
  unfold ampShell
  cases hasPrefix <;> simp
  cases decoded <;> simp
  split <;> simp

/-- The shell keeps no state a request could poison: the reply is a function of the request and of what
the core returned for it. -/
theorem no_poison (fixed tooLarge : Bool) (body natHeader : Bytes) (encodeReq : Bytes → Bytes → Option Bytes)
    (core1 core2 : Bytes → ClientCore) (h : ∀ b, core1 b = core2 b) :
    clientShell fixed tooLarge body natHeader encodeReq core1 = clientShell fixed tooLarge body natHeader encodeReq core2 := by
  have : core1 = core2 := funext h
  rw [this]

/-! ## The pinned shim drops the connection (finding F7) -/

/-- F7: legacy body with an invalid `Snowflake-NAT-Type`: the core answers `{"error":"invalid NAT type"}`,
the pinned shim hits `default: panic("unknown error")`. -/
theorem pinned_legacy_invalid_nat_drops :
    clientShell false false "{}".toUTF8.toList "bogus".toUTF8.toList (fun o n => some (o ++ n))
      (fun _ => .resp ⟨[], "invalid NAT type".toUTF8.toList⟩ []) = .dropped
    ∧ clientShell true false "{}".toUTF8.toList "bogus".toUTF8.toList (fun o n => some (o ++ n))
      (fun _ => .resp ⟨[], "invalid NAT type".toUTF8.toList⟩ []) = .reply 400 [] := by
  decide +kernel

end Snowflake.BrokerHttp.C14
