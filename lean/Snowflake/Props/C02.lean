import Snowflake.Proofs.BrokerInv
/-!
# C02 — the broker never cross-wires offers, answers or bridges

Theorems about every reachable state of the broker model `Snowflake.Model.Broker` (repaired
skeleton; any number of polls, clients and answers; any interleaving; any timer firings; any bridge
list).  Ghost fields: `popBy p = some c` – client `c`'s `matchSnowflake` popped poll `p`;
`offerFrom p = some c` – `p`'s waiter received `c`'s offer (this is what the poll's HTTP reply
carries); `(cs c).res = answer a` – client `c` was answered with what answer request `a` posted;
`(as a).sid` – the session id that request named.
-/
namespace Snowflake.Broker.C02
open Snowflake.Broker

variable {bridge : Nat → Option Nat} {st : St}

/-- **Answers are not cross-wired.** An answer returned to client `c` was posted (by request `a`) for
exactly the session `p` whose poll was handed `c`'s own offer. -/
theorem returned_answer_is_matched_proxys (hr : Reachable bridge st) (c a : Nat)
    (h : (st.cs c).res = .answer a) :
    ∃ p, (st.as a).sid = p ∧ (st.ss p).popBy = some c ∧ (st.ss p).offerFrom = some c := by
  have hi := inv_reachable hr
  obtain ⟨p, hsf, hsid, _⟩ := hi.res.cans c a h
  have hpop := (hi.link.sf c p).mp hsf
  refine ⟨p, hsid, hpop, (hi.link.offerFrom_or_sendOffer hpop).resolve_right fun e => ?_⟩
  -- with its result, a client is past the send
  have := hi.link.cres c (by simp [h])
  simp [e] at this

/-- **Each offer is handed to at most one poll.** -/
theorem offer_handed_at_most_once (hr : Reachable bridge st) (c p1 p2 : Nat)
    (h1 : (st.ss p1).offerFrom = some c) (h2 : (st.ss p2).offerFrom = some c) : p1 = p2 := by
  have hi := inv_reachable hr
  have e1 := (hi.link.sf c p1).mpr ((hi.sess p1).offer c h1)
  have e2 := (hi.link.sf c p2).mpr ((hi.sess p2).offer c h2)
  exact Option.some.inj (e1.symm.trans e2)

/-- **Each poll receives at most one offer**, and its reply carries exactly that one: the record of
the offer received is single-valued, the handler that got an offer got that one, and a `matched`
reply names it. -/
theorem poll_reply_carries_its_one_offer (hr : Reachable bridge st) (p : Nat) :
    (∀ c, (st.ss p).h = .gotOffer c → (st.ss p).offerFrom = some c)
    ∧ (∀ c u, (st.ss p).res = .matched c u → (st.ss p).offerFrom = some c)
    ∧ (∀ c, (st.ss p).offerFrom = some c → (st.ss p).popBy = some c) :=
  have hp := (inv_reachable hr).sess p
  ⟨fun c h => (hp.got c h).2.1, hp.resMatched, hp.offer⟩

/-- **The relay URL is the one configured for the bridge the client named.** -/
theorem relay_url_is_bridge_of_fingerprint (hr : Reachable bridge st) (p c u : Nat)
    (h : (st.ss p).res = .matched c u) : bridge (st.cs c).fp = some u :=
  bridge_reachable hr ▸ (inv_reachable hr).res.url p c u h

/-- **A client naming a fingerprint absent from the bridge list is never matched to any proxy.** -/
theorem unknown_fingerprint_never_matched (hr : Reachable bridge st) (c : Nat)
    (h : bridge (st.cs c).fp = none) : ∀ p, (st.ss p).popBy ≠ some c ∧ (st.ss p).offerFrom ≠ some c := by
  have hi := inv_reachable hr
  have key : ∀ p, (st.ss p).popBy ≠ some c := fun p hp => by
    simpa [bridge_reachable hr, h] using (hi.link.popBy c p hp).2.2
  exact fun p => ⟨key p, fun ho => key p ((hi.sess p).offer c ho)⟩

/-! ## Non-vacuity: a history in which client 101 is answered -/

def demoLabels : List Lab :=
  [.pollArrive 1 .unrestricted 0, .add 1, .clientArrive 101 .unknown 0, .cMatch 101 1, .wOffer 1 101,
   .wFwd 1, .hRespond 1, .ansArrive 201 1, .aLookup 201, .aSend 201, .cRecv 101, .cFin 101]

def demoBridge : Nat → Option Nat := fun fp => if fp = 0 then some 100 else none

example : (runL true (init demoBridge) demoLabels).map
    (fun st => ((st.cs 101).res, (st.ss 1).res, (st.ss 1).inMap, st.gauge)) =
    some (.answer 201, .matched 101 100, false, 0) := by decide +kernel

end Snowflake.Broker.C02
