import Snowflake.Proofs.AmpPath
import Snowflake.Props.C10
/-!
# C11 — rendezvous requests are faithfully encoded, fronted and bounded

Property theorems about `Snowflake.Model.AmpPath` (the model of `common/amp/path.go`, `cache.go`,
`broker/amp.go` next to `broker/http.go clientOffers`, and the response handling of
`client/lib/rendezvous_http.go` / `rendezvous_ampcache.go`).
-/
namespace Snowflake.AmpPath.C11
open Snowflake.Base64 (Bytes)
open Snowflake.AmpPath

/-! ## Path encoding -/

/-- **Path round trip.**  Whatever bytes — slashes included — stand between the version byte `'0'`
and the final slash, `DecodePath` returns the data encoded after it. -/
theorem path_roundtrip (pfx d : Bytes) :
    decodePath (48 :: (pfx ++ sl :: Base64.encode Base64.rawUrl d)) = .ok d := by
  have hfree : ∀ c ∈ Base64.encode Base64.rawUrl d, c ≠ sl := fun c hc => (Base64.rawUrl_no_slash_plus d c hc).1
  simp [decodePath, afterLastSlash_append pfx _ hfree, Base64.decode_encode Base64.rawUrl_good]

theorem encodePath_decodePath (pad d : Bytes) : decodePath (encodePath pad d) = .ok d := by
  simpa [encodePath] using path_roundtrip (Base64.encode Base64.rawUrl pad) d

/-- **The cache-breaker never changes what is delivered**: two encoded paths that coincide — with whatever
(different) random paddings — carry the same request bytes. -/
theorem encodePath_data_unambiguous (pad pad' d d' : Bytes) (h : encodePath pad d = encodePath pad' d') : d = d' := by
  have hd := encodePath_decodePath pad d
  rw [h, encodePath_decodePath pad' d'] at hd
  injection hd with hd; exact hd.symm

/-- **Path errors.**  The empty path, a wrong version byte, a path without slash and bad base64 after
the last slash are errors. -/
theorem path_errors :
    decodePath [] = .error .missingIndicator
    ∧ (∀ v rest, v ≠ 48 → decodePath (v :: rest) = .error (.unknownIndicator v))
    ∧ (∀ rest, (∀ c ∈ rest, c ≠ sl) → decodePath (48 :: rest) = .error .missingData)
    ∧ (∀ pfx t, (∀ c ∈ t, c ≠ sl) → Base64.decode Base64.rawUrl t = none →
        decodePath (48 :: (pfx ++ sl :: t)) = .error .corrupt) := by
  refine ⟨rfl, ?_, ?_, ?_⟩
  · intro v rest hv
    simp [decodePath, hv]
  · intro rest h
    simp [decodePath, afterLastSlash_none rest h]
  · intro pfx t ht hd
    simp [decodePath, afterLastSlash_append pfx t ht, hd]

/-! ## The two broker endpoints -/

theorem hasPrefix_append (p x : Bytes) : GoStr.hasPrefix (p ++ x) p = true := by
  simp [GoStr.hasPrefix]

/-- **AMP endpoint = armor ∘ core ∘ DecodePath.**  For every behaviour `core` of the poll handler
(`i.ClientOffers`, in whatever state and schedule the broker is), every poll `d` and every padding, a
request for `/amp/client/0<padding>/<base64url d>` is answered with the armor of what `core` answers
to `d`, or with status 500 when `core` fails. -/
theorem amp_endpoint (core : Bytes → Option Bytes) (pfx d : Bytes) :
    ampClientOffers core (ampPrefix ++ 48 :: (pfx ++ sl :: Base64.encode Base64.rawUrl d))
      = match core d with
        | some resp => .ok (Amp.armor resp)
        | none => .status 500 := by
  unfold ampClientOffers
  rw [hasPrefix_append, List.drop_left, path_roundtrip]
  rfl

/-- **The AMP endpoint returns, armored, exactly what POST returns.**  For a poll `d` within the POST
read limit that is not a legacy (`{`-initial) body: if POST answers 200 with body `r`, the AMP endpoint
answers 200 with a document that the armor decoder (C10) turns back into exactly `r`, for every
sequence of positive read sizes; if POST answers 500 so does the AMP endpoint. -/
theorem amp_equals_post (core : Bytes → Option Bytes) (pfx d : Bytes) (hlen : d.length ≤ brokerReadLimit)
    (hleg : d.head? ≠ some 123) (sizes : Nat → Nat) (hs : ∀ i, 1 ≤ sizes i) :
    match postClientOffers core d with
    | .ok r => ∃ doc, ampClientOffers core (ampPrefix ++ 48 :: (pfx ++ sl :: Base64.encode Base64.rawUrl d)) = .ok doc
                 ∧ Amp.decode sizes doc = .read r none
    | other => ampClientOffers core (ampPrefix ++ 48 :: (pfx ++ sl :: Base64.encode Base64.rawUrl d)) = other := by
  rw [amp_endpoint]
  unfold postClientOffers
  have h1 : ¬ (d.length > brokerReadLimit) := by omega
  have h2 : (d.head? == some 123) = false := by simp [hleg]
  simp only [h1, if_false, h2, Bool.false_eq_true]
  cases core d with
  | none => rfl
  | some r => exact ⟨Amp.armor r, rfl, Amp.C10.roundtrip r sizes hs⟩

/-- A path that cannot be decoded is answered with status 200 and the armored error message. -/
theorem amp_undecodable (core : Bytes → Option Bytes) (path : Bytes) (e : PathErr) (h : decodePath path = .error e)
    (sizes : Nat → Nat) (hs : ∀ i, 1 ≤ sizes i) :
    ∃ doc, ampClientOffers core (ampPrefix ++ path) = .ok doc ∧ Amp.decode sizes doc = .read cannotDecodeResponse none := by
  refine ⟨Amp.armor cannotDecodeResponse, ?_, Amp.C10.roundtrip _ sizes hs⟩
  unfold ampClientOffers
  rw [hasPrefix_append, List.drop_left, h]
  rfl

/-! ## Cache URL -/

/-- One guard of the chain in `cacheURL`. -/
theorem ite_error_eq_ok {ε α : Type} {c : Prop} [Decidable c] {e : ε} {x : Except ε α} {a : α} :
    (if c then .error e else x) = .ok a ↔ ¬ c ∧ x = .ok a := by
  split <;> simp [*]

/-- **Guards.**  Empty content type, a scheme other than http/https, userinfo, a non-default port, an
empty host, a cache URL with query or fragment: each is an error. -/
theorem cache_url_guards (pub : PubURL) (cache : CacheURLIn) (ct pfx : Bytes) (out : OutURL)
    (h : cacheURL pub cache ct pfx = .ok out) :
    ct ≠ [] ∧ (pub.scheme = http ∨ pub.scheme = https) ∧ pub.hasUser = false
    ∧ (pub.port = [] ∨ (pub.scheme = http ∧ pub.port = [56, 48]) ∨ (pub.scheme = https ∧ pub.port = [52, 52, 51]))
    ∧ pub.hostname ≠ [] ∧ cache.rawQuery = [] ∧ cache.fragment = [] := by
  simp only [cacheURL, ite_error_eq_ok] at h
  obtain ⟨h1, h2, h3, h4, h5, -, h7, h8, -⟩ := h
  refine ⟨by simpa using h1, ?_, by simpa using h3, ?_, by simpa using h5, by simpa using h7, by simpa using h8⟩
  · exact Decidable.or_iff_not_imp_left.mpr (by simpa using h2)
  · -- `h4` is the port guard negated, `¬(port ≠ "" ∧ ¬(… ∨ …))`: propositional from there
    simp at h4; grind

/-- **Shape, fields.**  Scheme and userinfo come from the cache URL, query and fragment from the
publisher URL, the host is `prefix.cachehost` (`[…]:port` resp. `:port` appended when the cache URL has
a port), the path is `path.Join` of the cache path, the escaped content type, `s` for https, the
escaped publisher host and the publisher path. -/
theorem cache_url_shape (pub : PubURL) (cache : CacheURLIn) (ct pfx : Bytes) (out : OutURL)
    (h : cacheURL pub cache ct pfx = .ok out) :
    out.scheme = cache.scheme ∧ out.user = cache.user ∧ out.rawQuery = pub.rawQuery ∧ out.fragment = pub.fragment
    ∧ out.host = (if cache.port = [] then pfx ++ [46] ++ cache.hostname else joinHostPort (pfx ++ [46] ++ cache.hostname) cache.port)
    ∧ out.rawPath = pathJoin (pathComponents pub cache ct) := by
  simp only [cacheURL, ite_error_eq_ok, Except.ok.injEq] at h
  obtain ⟨-, -, -, -, -, -, -, -, rfl⟩ := h
  exact ⟨rfl, rfl, rfl, rfl, by simp, rfl⟩

/-- **Shape, path.**  When the cache path and the publisher path are absolute paths of normal elements
(either may be empty) and the escaped content type and host are normal elements, the path is literally
`cachePath/‹type›[/s]/‹host›‹pubPath›` — relative (no leading slash, `URL.String()` supplies it) exactly
when the cache URL has an empty path. -/
theorem cache_url_path (pub : PubURL) (cache : CacheURLIn) (ct pfx : Bytes) (out : OutURL)
    (h : cacheURL pub cache ct pfx = .ok out) (A P : List Bytes)
    (hA : cache.escapedPath = absPath A) (hP : pub.escapedPath = absPath P)
    (hAn : ∀ s ∈ A, NormalSeg s) (hPn : ∀ s ∈ P, NormalSeg s)
    (hct : NormalSeg (pathEscape ct)) (hhost : NormalSeg (pathEscape pub.hostname)) :
    out.rawPath = (if A = [] then [] else [sl])
      ++ joinSlash (A ++ ([pathEscape ct] ++ (if pub.scheme = https then [[115]] else []) ++ [pathEscape pub.hostname]) ++ P) := by
  rw [(cache_url_shape pub cache ct pfx out h).2.2.2.2.2]
  have hs : NormalSeg [115] := ⟨by simp, by decide, by decide, by intro c hc; simp at hc; subst hc; decide⟩
  have hmid : ∀ s ∈ ([pathEscape ct] ++ (if pub.scheme = https then [[115]] else []) ++ [pathEscape pub.hostname]), NormalSeg s := by
    split <;> simp [hct, hhost, hs]
  have := pathJoin_normal A _ P hAn hmid hPn (by simp)
  rw [← this]
  unfold pathComponents
  rw [hA, hP]
  by_cases hsch : pub.scheme = https
  · simp [hsch]
  · simp [hsch]

/-! ## Domain prefix -/

/-- **The domain prefix is a DNS label.**  With a 32-byte digest: the fallback is 52 characters of
`a–z2–7`; the prefix is the basic result whenever that exists and is at most 63 bytes long, otherwise
the fallback; it is at most 63 bytes long; and it contains no dot — for ASCII domains unconditionally
(`asc` is never consulted: the output of step 4 is ASCII and, by `prefixMid_not_ace`, never starts with
`xn--`), for internationalised ones provided the punycode `idna.ToASCII` returns for the dot-free output
of step 4 contains no dot. -/
theorem domain_prefix_label (domain digest : Bytes) (uni asc : Option Bytes) (hd : digest.length = 32)
    (hasc : ∀ a, asc = some a → ∀ c ∈ a, c ≠ 46) :
    (domainPrefixFallback digest).length = 52
    ∧ (∀ c ∈ domainPrefixFallback digest, isB32 c = true)
    ∧ (∀ p, domainPrefixBasic domain uni asc = some p → p.length ≤ 63 → domainPrefix domain digest uni asc = p)
    ∧ ((domainPrefixBasic domain uni asc = none ∨ ∃ p, domainPrefixBasic domain uni asc = some p ∧ 63 < p.length) →
        domainPrefix domain digest uni asc = domainPrefixFallback digest)
    ∧ (domainPrefix domain digest uni asc).length ≤ 63
    ∧ ∀ c ∈ domainPrefix domain digest uni asc, c ≠ 46 := by
  have hlen : (domainPrefixFallback digest).length = 52 := by
    unfold domainPrefixFallback; rw [base32_length, hd]; rfl
  have hfb : ∀ c ∈ domainPrefixFallback digest, isB32 c = true := base32_all digest
  have hfbdot : ∀ c ∈ domainPrefixFallback digest, c ≠ 46 := fun c hc h0 => absurd (h0 ▸ hfb c hc) (by decide)
  have hbasicdot : ∀ p, domainPrefixBasic domain uni asc = some p → ∀ c ∈ p, c ≠ 46 := by
    intro p hp
    simp only [domainPrefixBasic] at hp
    split at hp
    · cases hp
    · rename_i u _
      split at hp
      · cases hp; exact prefixMid_no_dot u
      · exact hasc p hp
  refine ⟨hlen, hfb, ?_, ?_, ?_, ?_⟩
  · intro p hp hl
    simp [domainPrefix, hp, hl]
  · rintro (h | ⟨p, hp, hl⟩)
    · simp [domainPrefix, h]
    · simp [domainPrefix, hp, Nat.not_le.mpr hl]
  · unfold domainPrefix
    split
    · split
      · assumption
      · omega
    · omega
  · unfold domainPrefix
    split
    · rename_i p hp
      split
      · exact hbasicdot p hp
      · exact hfbdot
    · exact hfbdot

/-- On an ASCII domain without `xn--` labels the basic algorithm needs neither parameter and is the
AMP specification's: hyphens doubled, dots to hyphens, `0-…-0` around a result with hyphens at
positions 3 and 4. -/
theorem domain_prefix_basic_ascii (domain : Bytes) (uni asc : Option Bytes) (h : simpleDomain domain = true) :
    domainPrefixBasic domain uni asc = some (prefixMid domain) := by
  have hascii : ∀ c ∈ domain, c < 128 := by
    simp only [simpleDomain, Bool.and_eq_true] at h
    simpa [isAscii] using h.1
  have hmid : isAscii (prefixMid domain) = true := by
    simpa [isAscii] using prefixMid_all (· < 128) domain (by decide) (by decide) fun c hc _ => hascii c hc
  simp [domainPrefixBasic, h, hmid]

/-! ## Fronting and bounded reads -/

/-- **Fronting.**  With a front configured the connection goes to the front and the broker (or cache)
host appears only in the `Host` header; without one both are the URL's host. -/
theorem fronting (front urlHost : Bytes) :
    (front ≠ [] → frontedRequest front urlHost = (front, urlHost))
    ∧ (front = [] → frontedRequest front urlHost = (urlHost, urlHost)) := by
  constructor
  · intro h; simp [frontedRequest, h]
  · rintro rfl; rfl

/-- **Bounded read.**  `limitedRead` returns the complete body without error when it is within the
limit, and an error — together with exactly the first `limit` bytes, never more — when it is longer. -/
theorem limit_read (body : Bytes) (limit : Nat) :
    (body.length ≤ limit → limitedRead body limit = (body, none))
    ∧ (limit < body.length → limitedRead body limit = (body.take limit, some .unexpectedEOF)) := by
  have hlen : (body.take (limit + 1)).length = limit + 1 ↔ limit < body.length := by
    simp only [List.length_take]; omega
  simp only [limitedRead, hlen]
  constructor
  · intro h; rw [if_neg (by omega), List.take_of_length_le (by omega)]
  · intro h; rw [if_pos h, List.take_take, Nat.min_eq_left (Nat.le_succ _)]

theorem usedByNegotiate_eq_some {r : Bytes × Option ExErr} {d : Bytes} :
    usedByNegotiate r = some d ↔ r.2 = none ∧ r.1 = d := by
  unfold usedByNegotiate
  split <;> simp_all

/-- **Limit, HTTP rendezvous.**  A status other than 200 is an error; a body longer than the limit is
an error; and whenever there is an error `Negotiate` uses none of the returned bytes — so a truncated
body never becomes a result.  Without error the data is the complete body. -/
theorem limit (status : Nat) (body : Bytes) :
    (status ≠ 200 → (httpExchange status body).2 = some .unexpected)
    ∧ (status = 200 → clientReadLimit < body.length → (httpExchange status body).2 = some .unexpectedEOF)
    ∧ ((httpExchange status body).2 ≠ none → usedByNegotiate (httpExchange status body) = none)
    ∧ (∀ data, usedByNegotiate (httpExchange status body) = some data → data = body ∧ status = 200 ∧ body.length ≤ clientReadLimit) := by
  refine ⟨?_, ?_, ?_, ?_⟩
  · intro h; simp [httpExchange, h]
  · intro h hl; subst h
    simp [httpExchange, (limit_read body clientReadLimit).2 hl]
  · intro h
    cases he : (httpExchange status body).2 with
    | none => exact absurd he h
    | some e => simp [usedByNegotiate, he]
  · intro data h
    obtain ⟨he, rfl⟩ := usedByNegotiate_eq_some.mp h
    by_cases hst : status = 200
    · subst hst
      by_cases hl : body.length ≤ clientReadLimit
      · simp [httpExchange, (limit_read body clientReadLimit).1 hl, hl]
      · simp [httpExchange, (limit_read body clientReadLimit).2 (by omega)] at he
    · simp [httpExchange, hst] at he

/-- **Limit, AMP cache rendezvous.**  A status other than 200, a `Location` header, and a body longer
than the limit are errors; any result that `Negotiate` uses is the complete decoding of a body within
the limit. -/
theorem limit_amp (sizes : Nat → Nat) (status : Nat) (loc : Bool) (body : Bytes) :
    (status ≠ 200 → (ampExchange sizes status loc body).2 = some .unexpected)
    ∧ (status = 200 → loc = true → (ampExchange sizes status loc body).2 = some .unexpected)
    ∧ (clientReadLimit < body.length → (ampExchange sizes status loc body).2 ≠ none)
    ∧ (∀ data, usedByNegotiate (ampExchange sizes status loc body) = some data →
        status = 200 ∧ loc = false ∧ body.length ≤ clientReadLimit ∧ Amp.decode sizes body = .read data none) := by
  have hlong : clientReadLimit < body.length → (ampExchange sizes status loc body).2 ≠ none := by
    intro hl
    have : (body.take (clientReadLimit + 1)).length = clientReadLimit + 1 := by simp only [List.length_take]; omega
    -- the first three exits return an error, and so does the last, the length test being true
    simp only [ampExchange]
    repeat' split
    all_goals simp_all
  refine ⟨?_, ?_, hlong, ?_⟩
  · intro h; simp [ampExchange, h]
  · intro h hl; simp [ampExchange, h, hl]
  · intro data h
    obtain ⟨he, rfl⟩ := usedByNegotiate_eq_some.mp h
    have hle : body.length ≤ clientReadLimit := Nat.le_of_not_lt fun hl => hlong hl he
    -- `he` rules out every exit but the last, where the data is what `decode` returned
    simp only [ampExchange, List.take_of_length_le (Nat.le_succ_of_le hle)] at he ⊢
    repeat' split at he
    all_goals simp_all

/-! ## Non-vacuity and evaluated instances -/

/-- The example of doc.go: random padding `lgWHcwhXFjUm`, data "This is path-encoded data." -/
example : (decodePath [48, 108, 103, 87, 72, 99, 119, 104, 88, 70, 106, 85, 109, 47, 86, 71, 104, 112, 99, 121, 66, 112, 99,
    121, 66, 119, 89, 88, 82, 111, 76, 87, 86, 117, 89, 50, 57, 107, 90, 87, 81, 103, 90, 71, 70, 48, 89, 83, 52]).toOption
    = some [84, 104, 105, 115, 32, 105, 115, 32, 112, 97, 116, 104, 45, 101, 110, 99, 111, 100, 101, 100, 32,
      100, 97, 116, 97, 46] := by decide +kernel

/-- `en-us.example.com` → `0-en--us-example-com-0` (AMP specification). -/
example : domainPrefixBasic [101, 110, 45, 117, 115, 46, 101, 120, 97, 109, 112, 108, 101, 46, 99, 111, 109] none none
    = some [48, 45, 101, 110, 45, 45, 117, 115, 45, 101, 120, 97, 109, 112, 108, 101, 45, 99, 111, 109, 45, 48] := by
  decide +kernel

/-- `https://ex.com/amp/x?q=1#f` through `https://cdn.org/` with type `c` and prefix `ex-com`. -/
example : (cacheURL ⟨https, false, [101, 120, 46, 99, 111, 109], [], [47, 97, 109, 112, 47, 120], [113, 61, 49], [102]⟩
      ⟨https, [], [99, 100, 110, 46, 111, 114, 103], [], [47], [], []⟩ [99] [101, 120, 45, 99, 111, 109]).toOption
    = some ⟨https, [], [101, 120, 45, 99, 111, 109, 46, 99, 100, 110, 46, 111, 114, 103],
        [47, 99, 47, 115, 47, 101, 120, 46, 99, 111, 109, 47, 97, 109, 112, 47, 120], [113, 61, 49], [102]⟩ := by
  decide +kernel

/-- A publisher path with `..` elements climbs out of the `/c/s/host/` prefix (`path.Join` cleans
lexically).  The client never produces such a path (`ResolveReference` removes dot segments); recorded
as a property of the exported function, outside the hypotheses of `cache_url_path`. -/
theorem cache_url_dotdot_escapes :
    (cacheURL ⟨https, false, [101, 120, 46, 99, 111, 109], [], [47, 46, 46, 47, 46, 46, 47, 120], [], []⟩
      ⟨https, [], [99, 100, 110, 46, 111, 114, 103], [], [47], [], []⟩ [99] [101, 120, 45, 99, 111, 109]).toOption.map (·.rawPath)
    = some [47, 99, 47, 120] := by decide +kernel

end Snowflake.AmpPath.C11
