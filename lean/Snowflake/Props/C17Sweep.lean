/-
C17 — "the server-side queue connection delivers packets … without blocking (dropping when a queue is full)":
a `WriteTo` must return normally whatever the periodic sweep does to the client's queue in the meantime
(model: `Model/QueueSweep.lean`; F18 of DESIGN.md §11.2; the other clauses of C17: `Props/C17.lean`).
-/
import Snowflake.Model.QueueSweep

namespace Snowflake.C17Sweep
open Snowflake.QueueSweep

theorem inv_init : Inv init := ⟨rfl, nofun, nofun, nofun⟩

theorem sendQueue_none {s : St} (h : s.cur = none) :
    sendQueue s = ({ s with cur := some (s.nextGen, s.now), nextGen := s.nextGen + 1 }, s.nextGen) := by
  simp [sendQueue, h]

theorem sendQueue_some {s : St} {g seen : Nat} (h : s.cur = some (g, seen)) :
    sendQueue s = ({ s with cur := some (g, s.now) }, g) := by
  simp [sendQueue, h]

theorem inv_sendQueue {s : St} (h : Inv s) :
    Inv (sendQueue s).1 ∧ (sendQueue s).2 ∉ (sendQueue s).1.closedGens := by
  cases hc : s.cur with
  | none =>
    rw [sendQueue_none hc]
    -- the fresh generation is above every closed one
    have hfresh : s.nextGen ∉ s.closedGens := fun hm => Nat.lt_irrefl _ (h.closed_old _ hm)
    refine ⟨⟨h.no_panic, ?_, ?_, fun g hm => Nat.lt_succ_of_lt (h.closed_old g hm)⟩, hfresh⟩
    · rintro g seen ⟨⟩
      exact hfresh
    · rintro g seen ⟨⟩
      exact Nat.lt_succ_self _
  | some p =>
    obtain ⟨g, seen⟩ := p
    rw [sendQueue_some hc]
    refine ⟨⟨h.no_panic, ?_, ?_, h.closed_old⟩, h.cur_open g seen hc⟩
    · rintro g' seen' ⟨⟩
      exact h.cur_open g seen hc
    · rintro g' seen' ⟨⟩
      exact h.cur_old g seen hc

theorem inv_step (timeout : Nat) {s : St} (h : Inv s) {e : Ev} (he : Repaired e = true) : Inv (step timeout s e) := by
  cases e with
  | tick d => exact ⟨h.no_panic, h.cur_open, h.cur_old, h.closed_old⟩
  | sweep =>
    unfold step
    cases hc : s.cur with
    | none => simpa [hc] using h
    | some p =>
      obtain ⟨g, seen⟩ := p
      simp only
      split
      · refine ⟨h.no_panic, ?_, ?_, ?_⟩
        · intro g' seen' hg; cases hg
        · intro g' seen' hg; cases hg
        · intro g' hm
          rcases List.mem_cons.mp hm with heq | hin
          · rw [heq]; exact h.cur_old g seen hc
          · exact h.closed_old g' hin
      · exact h
  | lookup w => cases he
  | send w => cases he
  | trySend w =>
    unfold step
    obtain ⟨hi, hopen⟩ := inv_sendQueue h
    refine ⟨?_, hi.cur_open, hi.cur_old, hi.closed_old⟩
    simp [hi.no_panic, hopen]

theorem inv_run (timeout : Nat) (es : List Ev) (s : St) (h : Inv s) (hall : ∀ e ∈ es, Repaired e = true) :
    Inv (run timeout s es) := by
  induction es generalizing s with
  | nil => exact h
  | cons e es ih =>
    simp only [List.forall_mem_cons] at hall
    exact ih _ (inv_step timeout h hall.1) hall.2

/-- **Repaired code.** Any number of writers, sweeps and clock steps, in any order, for any timeout: no send
ever hits a closed channel. -/
theorem repaired_never_panics (timeout : Nat) (es : List Ev) (h : ∀ e ∈ es, Repaired e = true) :
    (run timeout init es).panicked = false :=
  (inv_run timeout es init inv_init h).no_panic

/-- … and the queue recorded for the address is never one that was closed. -/
theorem repaired_record_open (timeout : Nat) (es : List Ev) (h : ∀ e ∈ es, Repaired e = true) (g seen : Nat)
    (hc : (run timeout init es).cur = some (g, seen)) : g ∉ (run timeout init es).closedGens :=
  (inv_run timeout es init inv_init h).cur_open g seen hc

/-- **Pinned code (F18).** For every timeout there is a schedule of one writer and one sweep that sends on a
closed channel: look the queue up, be descheduled for the timeout, the sweep closes the queue, send. -/
theorem pinned_write_can_panic (timeout : Nat) :
    (run timeout init [.lookup 0, .tick timeout, .sweep, .send 0]).panicked = true := by
  simp [run, step, sendQueue, init, setHolding]

/-- Non-vacuity of the repaired theorem: a schedule with two writers, a sweep that really expires the record
(the closed list is not empty afterwards) and a write after it. -/
example : (run 5 init [.trySend 0, .trySend 1, .tick 7, .sweep, .trySend 0]).closedGens = [0]
    ∧ (run 5 init [.trySend 0, .trySend 1, .tick 7, .sweep, .trySend 0]).cur = some (1, 7)
    ∧ (run 5 init [.trySend 0, .trySend 1, .tick 7, .sweep, .trySend 0]).panicked = false := by decide

/-- The same schedule in the pinned shape with the writer caught between its two steps panics. -/
example : (run 5 init [.lookup 0, .send 0, .lookup 1, .tick 7, .sweep, .send 1]).panicked = true := by decide

end Snowflake.C17Sweep
