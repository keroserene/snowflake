import Snowflake.Model.Attribution
import Snowflake.Props.C18
/-!
# C18, attribution clause — whose address a connection accepted by the server reports

Theorems about `Model/Attribution.lean` (events `carrier id ip` / `establish s id` / `stream s` on top of the
ring map), for every capacity and every event sequence.  Tied to the source by `Tie/ServerLib.lean`
(`acceptStreams_*`, `turbotunnel_*`, `serveHTTP_*`) and by `harness/c18_attr_test.go` (real
`Transport.Listen`, WebSocket carriers, KCP + smux sessions).
-/
namespace Snowflake.Attribution.C18
open Snowflake.ClientAddr Snowflake.ClientAddr.C18 Snowflake.GoStr Snowflake.IP

section
variable {S K I V : Type} (san : I → V)

theorem ringOps_append (a b : List (Ev S K I)) : ringOps san (a ++ b) = ringOps san a ++ ringOps san b := by
  induction a with
  | nil => rfl
  | cons e a ih => cases e <;> simp [ringOps, ih]

theorem sets_ringOps (evs : List (Ev S K I)) :
    sets (ringOps san evs) = (carriers evs).map (fun e => (e.1, san e.2)) := by
  induction evs with
  | nil => rfl
  | cons e evs ih => cases e <;> simp [ringOps, carriers, sets, ih]

theorem carriers_append (a b : List (Ev S K I)) : carriers (a ++ b) = carriers a ++ carriers b := by
  induction a with
  | nil => rfl
  | cons e a ih => cases e <;> simp [carriers, ih]

theorem established_append (a b : List (Ev S K I)) : established (a ++ b) = established a ++ established b := by
  induction a with
  | nil => rfl
  | cons e a ih => cases e <;> simp [established, ih]

end

section
variable {S K I V : Type} [DecidableEq S] [DecidableEq K] (san : I → V) (k0 : K) (v0 : V)

/-- the server state after `evs`, starting from `newClientIDMap(n)` and no session -/
def afterEv (n : Nat) (evs : List (Ev S K I)) : St S K V := (run san k0 v0 (init k0 v0 n) evs).2

/-- what the accepted connections report, one per `stream` event -/
def outputs (n : Nat) (evs : List (Ev S K I)) : List (Option (Option V)) := (run san k0 v0 (init k0 v0 n) evs).1

theorem run_append (st : St S K V) (a b : List (Ev S K I)) :
    run san k0 v0 st (a ++ b)
      = ((run san k0 v0 st a).1 ++ (run san k0 v0 (run san k0 v0 st a).2 b).1,
         (run san k0 v0 (run san k0 v0 st a).2 b).2) := by
  fun_induction run san k0 v0 st a with
  | case1 => simp
  | case2 _ _ _ _ ih | case3 _ _ _ _ ih => exact ih
  | case4 _ _ _ _ ih => simp only [List.cons_append, run, ih]; rfl

/-- The ring map only sees the carriers. -/
theorem run_ring (st : St S K V) (evs : List (Ev S K I)) :
    (run san k0 v0 st evs).2.ring = (runRing k0 v0 st.ring (ringOps san evs)).2 := by
  fun_induction run san k0 v0 st evs with
  | case1 => rfl
  | case2 _ _ _ _ ih | case3 _ _ _ _ ih => rw [ih]; rfl
  | case4 _ _ _ _ ih => exact ih

theorem afterEv_ring (n : Nat) (evs : List (Ev S K I)) :
    (afterEv san k0 v0 n evs).ring = after k0 v0 n (ringOps san evs) := by
  simp only [afterEv, after, run_ring]; rfl

/-- Events that do not establish `s` leave what `s` reports untouched. -/
theorem report_unaffected (st : St S K V) (post : List (Ev S K I)) (s : S) (hno : s ∉ established post) :
    report (run san k0 v0 st post).2 s = report st s := by
  fun_induction run san k0 v0 st post with
  | case1 => rfl
  | case2 _ _ _ _ ih => rw [ih (by simpa [established] using hno)]; rfl
  | case3 _ s' _ _ ih =>
    simp only [established, List.mem_cons, not_or] at hno
    rw [ih hno.2]
    simp [step, report, sessGet, Ne.symm hno.1]
  | case4 _ _ _ _ ih => exact ih (by simpa [established] using hno)

theorem outputs_append (n : Nat) (a b : List (Ev S K I)) :
    outputs san k0 v0 n (a ++ b) = outputs san k0 v0 n a ++ (run san k0 v0 (afterEv san k0 v0 n a) b).1 := by
  simp [outputs, afterEv, run_append]

theorem outputs_stream (n : Nat) (evs : List (Ev S K I)) (s : S) :
    outputs san k0 v0 n (evs ++ [Ev.stream s]) = outputs san k0 v0 n evs ++ [report (afterEv san k0 v0 n evs) s] := by
  rw [outputs_append]; rfl

/-! ## (a) the address is fixed when the session is established -/

/-- **State form.**  Until `s` is established anew it reports the result of the `Get id` performed at
`establish s id` (`some none`: the nil address of a failed lookup), whatever carriers (of `id` too),
other establishments and streams follow. -/
theorem report_fixed_at_establish (n : Nat) (pre post : List (Ev S K I)) (s : S) (id : K)
    (hno : s ∉ established post) :
    report (afterEv san k0 v0 n (pre ++ Ev.establish s id :: post)) s
      = some (Ring.get k0 v0 (afterEv san k0 v0 n pre).ring id) := by
  simp only [afterEv, run_append, run]
  rw [report_unaffected san k0 v0 _ post s hno]
  simp [step, report, sessGet]

/-- **Observable form**: the connection accepted for a stream of `s` reports exactly that address. -/
theorem stream_address_fixed_at_establish (n : Nat) (pre post : List (Ev S K I)) (s : S) (id : K)
    (hno : s ∉ established post) :
    outputs san k0 v0 n (pre ++ Ev.establish s id :: post ++ [Ev.stream s])
      = outputs san k0 v0 n (pre ++ Ev.establish s id :: post)
        ++ [some (Ring.get k0 v0 (afterEv san k0 v0 n pre).ring id)] := by
  rw [outputs_stream, report_fixed_at_establish san k0 v0 n pre post s id hno]

theorem report_none_iff (n : Nat) (evs : List (Ev S K I)) (s : S) :
    report (afterEv san k0 v0 n evs) s = none ↔ s ∉ established evs := by
  -- from any state: `s` reports nothing afterwards iff it did before and is not established on the way
  suffices h : ∀ (st : St S K V), report (run san k0 v0 st evs).2 s = none ↔ (report st s = none ∧ s ∉ established evs) by
    simpa [afterEv, init, report, sessGet] using h (init k0 v0 n)
  intro st
  fun_induction run san k0 v0 st evs with
  | case1 => simp [established]
  | case2 _ _ _ _ ih => rw [ih]; rfl
  | case3 _ s' _ _ ih =>
    rw [ih]
    by_cases h : s' = s
    · simp [established, step, report, sessGet, h]
    · simp [established, step, report, sessGet, h, Ne.symm h]
  | case4 _ _ _ _ ih => exact ih

omit [DecidableEq K] in
/-- So the theorems over `pre ++ establish s id :: post`, `s ∉ established post` cover every report that is
not `none`. -/
theorem last_establish (evs : List (Ev S K I)) (s : S) (h : s ∈ established evs) :
    ∃ pre id post, evs = pre ++ Ev.establish s id :: post ∧ s ∉ established post := by
  induction evs with
  | nil => simp [established] at h
  | cons e evs ih =>
    by_cases hin : s ∈ established evs
    · obtain ⟨pre, id, post, he, hp⟩ := ih hin
      exact ⟨e :: pre, id, post, by simp [he], hp⟩
    · cases e with
      | carrier id ip | stream s' => exact absurd (by simpa [established] using h) hin
      | establish s' id =>
        obtain rfl : s = s' := (List.mem_cons.mp h).resolve_right hin
        exact ⟨[], id, evs, rfl, hin⟩

/-! ## (b) which address the lookup at establishment finds -/

/-- **Specification of the lookup.**  The `Get id` at an establishment reads the bounded log of the carriers
seen so far: the sanitised `client_ip` of the newest carrier of `id` among the last `n` carriers, else absent. -/
theorem establish_get_spec (n : Nat) (pre : List (Ev S K I)) (id : K) :
    Ring.get k0 v0 (afterEv san k0 v0 n pre).ring id
      = logGet ((((carriers pre).map (fun e => (e.1, san e.2))).reverse).take n) id := by
  rw [afterEv_ring, ring_get_spec, sets_ringOps]

/-- **The most recent carrier of `id` and what followed** (`p2` has no carrier of `id`): found iff fewer than
`n` carriers arrived since (every carrier performs one `Set`). -/
theorem establish_last_carrier (n : Nat) (p1 p2 : List (Ev S K I)) (id : K) (ip : I)
    (hother : ∀ e ∈ carriers p2, e.1 ≠ id) :
    Ring.get k0 v0 (afterEv san k0 v0 n (p1 ++ Ev.carrier id ip :: p2)).ring id
      = if (carriers p2).length < n then some (san ip) else none := by
  rw [afterEv_ring, ringOps_append]
  simp only [ringOps]
  rw [ring_last_set, sets_ringOps, List.length_map]
  intro e he
  rw [sets_ringOps] at he
  obtain ⟨c, hc, rfl⟩ := List.mem_map.mp he
  exact hother c hc

/-- **Most recent carrier wins**: with fewer than `capacity` carriers since, the lookup finds the
`client_ip` of the latest carrier of that ClientID. -/
theorem establish_remembers (n : Nat) (p1 p2 : List (Ev S K I)) (id : K) (ip : I)
    (hother : ∀ e ∈ carriers p2, e.1 ≠ id) (hfew : (carriers p2).length < n) :
    Ring.get k0 v0 (afterEv san k0 v0 n (p1 ++ Ev.carrier id ip :: p2)).ring id = some (san ip) := by
  rw [establish_last_carrier san k0 v0 n p1 p2 id ip hother, if_pos hfew]

/-- **Forgotten, oldest first**: the session gets the nil address, never a stale or foreign one. -/
theorem establish_forgets (n : Nat) (p1 p2 : List (Ev S K I)) (id : K) (ip : I)
    (hother : ∀ e ∈ carriers p2, e.1 ≠ id) (hmany : n ≤ (carriers p2).length) :
    Ring.get k0 v0 (afterEv san k0 v0 n (p1 ++ Ev.carrier id ip :: p2)).ring id = none := by
  rw [establish_last_carrier san k0 v0 n p1 p2 id ip hother, if_neg (by omega)]

theorem establish_get_own (n : Nat) (pre : List (Ev S K I)) (id : K) (v : V)
    (h : Ring.get k0 v0 (afterEv san k0 v0 n pre).ring id = some v) :
    ∃ ip, (id, ip) ∈ carriers pre ∧ san ip = v := by
  rw [afterEv_ring] at h
  have hm := ring_get_own k0 v0 n _ id v h
  rw [sets_ringOps] at hm
  obtain ⟨⟨cid, cip⟩, hc, he⟩ := List.mem_map.mp hm
  cases he
  exact ⟨cip, hc, rfl⟩

theorem establish_no_carrier (n : Nat) (pre : List (Ev S K I)) (id : K)
    (hnone : ∀ e ∈ carriers pre, e.1 ≠ id) :
    Ring.get k0 v0 (afterEv san k0 v0 n pre).ring id = none := by
  cases h : Ring.get k0 v0 (afterEv san k0 v0 n pre).ring id with
  | none => rfl
  | some v =>
    obtain ⟨ip, hip, _⟩ := establish_get_own san k0 v0 n pre id v h
    exact absurd rfl (hnone _ hip)

/-- **The attribution clause, end to end.**  A carrier of `id` with `client_ip = ip`; then fewer than `n`
carriers, none of `id`; then `s` is established with ClientID `id`; then anything that does not establish `s`
anew, further carriers of `id` included; then a stream of `s` is accepted: it reports the sanitised `ip`. -/
theorem attribution (n : Nat) (p1 p2 post : List (Ev S K I)) (s : S) (id : K) (ip : I)
    (hother : ∀ e ∈ carriers p2, e.1 ≠ id) (hfew : (carriers p2).length < n) (hno : s ∉ established post) :
    outputs san k0 v0 n (p1 ++ Ev.carrier id ip :: p2 ++ Ev.establish s id :: post ++ [Ev.stream s])
      = outputs san k0 v0 n (p1 ++ Ev.carrier id ip :: p2 ++ Ev.establish s id :: post) ++ [some (some (san ip))] := by
  rw [stream_address_fixed_at_establish san k0 v0 n _ post s id hno,
    establish_remembers san k0 v0 n p1 p2 id ip hother hfew]

/-! ## (c) never another session's address -/

/-- **Never another session's address.**  An address that session `s` reports was presented, before the
establishment, by a carrier with the session's own ClientID. -/
theorem never_another_sessions_address (n : Nat) (pre post : List (Ev S K I)) (s : S) (id : K) (v : V)
    (hno : s ∉ established post)
    (h : report (afterEv san k0 v0 n (pre ++ Ev.establish s id :: post)) s = some (some v)) :
    ∃ ip, (id, ip) ∈ carriers pre ∧ san ip = v := by
  rw [report_fixed_at_establish san k0 v0 n pre post s id hno] at h
  exact establish_get_own san k0 v0 n pre id v (Option.some.inj h)

end

section
variable {S K : Type} [DecidableEq S] [DecidableEq K] (k0 : K)

/-- **The bridge is told the session's own address or none.**  With `clientAddr` as the sanitiser: a
non-empty address reported for session `s` is `JoinHostPort(ip.String(), "1")` of the valid, specified
address that the `client_ip` of a carrier with the session's own ClientID denotes. -/
theorem reported_address_is_own_sanitised_client_ip (n : Nat) (pre post : List (Ev S K Str)) (s : S) (id : K)
    (v : Str) (hno : s ∉ established post)
    (h : report (afterEv clientAddr k0 [] n (pre ++ Ev.establish s id :: post)) s = some (some v)) (hne : v ≠ []) :
    ∃ param ip, (id, param) ∈ carriers pre ∧ v = clientAddr param ∧ parseIP param = some ip ∧ ip.length = 16
      ∧ ip ≠ ipv4zero ∧ ip ≠ ipv6unspecified ∧ v = joinHostPort (render ip) [49] := by
  obtain ⟨param, hp, hv⟩ := never_another_sessions_address clientAddr k0 [] n pre post s id v hno h
  subst hv
  obtain ⟨ip, h1, h2, h3, h4, h5, _⟩ := clientAddr_tells_that_address param hne
  exact ⟨param, ip, hp, rfl, h1, h2, h3, h4, h5⟩

end

/-! ## Non-vacuity and sensitivity -/

/-- the sanitiser of the examples: `0` stands for an absent / bad `client_ip` -/
def sanEx (ip : Nat) : Nat := if ip = 0 then 0 else ip + 100

/-- Capacity 2.  What the streams of session 7 (ClientID 1) report is not changed by a later carrier of
ClientID 1 with another address, by carriers that push ClientID 1 out of the map, or by session 8 (ClientID 1
again, forgotten: nil address; then ClientID 3).  Session 9 is never established. -/
example :
    outputs (S := Nat) sanEx 0 0 2
        [.carrier 1 5, .carrier 2 6, .establish 7 1, .stream 7, .carrier 1 9, .stream 7, .carrier 3 4, .carrier 2 0,
         .establish 8 1, .stream 8, .stream 7, .establish 8 3, .stream 8, .establish 6 2, .stream 6, .stream 9, .stream 7]
      = [some (some 105), some (some 105), some none, some (some 105), some (some 104), some (some 0), none,
         some (some 105)] := by decide +kernel

/-- hypotheses of `attribution` are satisfiable (and its conclusion is the non-trivial output) -/
example :
    let p2 : List (Ev Nat Nat Nat) := [.carrier 2 6, .stream 3]
    (∀ e ∈ carriers p2, e.1 ≠ 1) ∧ (carriers p2).length < 2 ∧ 7 ∉ established ([.carrier 1 9, .establish 8 1] : List (Ev Nat Nat Nat))
    ∧ outputs (S := Nat) sanEx 0 0 2 ([.carrier 1 5] ++ Ev.carrier 1 8 :: p2 ++ Ev.establish 7 1 :: [.carrier 1 9, .establish 8 1] ++ [.stream 7])
        = [none, some (some 108)] := by decide +kernel

/-- hypotheses of `establish_forgets` are satisfiable: two carriers of other ids, capacity 2 -/
example :
    let p2 : List (Ev Nat Nat Nat) := [.carrier 2 6, .carrier 3 6]
    (∀ e ∈ carriers p2, e.1 ≠ 1) ∧ 2 ≤ (carriers p2).length
    ∧ outputs (S := Nat) sanEx 0 0 2 ([] ++ Ev.carrier 1 8 :: p2 ++ [.establish 7 1, .stream 7]) = [some none] := by
  decide +kernel

/-- **Sensitivity.**  With the `Get` inside the `AcceptStream` loop a second carrier of the same ClientID
changes the address between two streams of one session, and carriers of other sessions make a later stream
lose it. -/
example :
    let evs : List (Ev Nat Nat Nat) := [.carrier 1 5, .establish 7 1, .stream 7, .carrier 1 9, .stream 7, .carrier 2 1, .carrier 3 1, .stream 7]
    outputs sanEx 0 0 2 evs = [some (some 105), some (some 105), some (some 105)]
    ∧ runLate sanEx 0 0 { ring := Ring.new 0 0 2, sess := [] } evs = [some (some 105), some (some 109), some none] := by
  decide +kernel

/-- with the real sanitiser: garbage, `0.0.0.0` and an absent parameter are stored as the empty address,
which is not the nil address of a failed lookup -/
example :
    outputs (S := Nat) (K := Nat) clientAddr 0 [] 4
        [.carrier 1 (ofString "1.2.3.4"), .carrier 2 (ofString "0.0.0.0"), .carrier 3 [], .carrier 4 (ofString "2001:db8::1"),
         .establish 1 1, .establish 2 2, .establish 3 3, .establish 4 4, .establish 5 5,
         .carrier 1 (ofString "9.9.9.9"), .stream 1, .stream 2, .stream 3, .stream 4, .stream 5]
      = [some (some (ofString "1.2.3.4:1")), some (some []), some (some []), some (some (ofString "[2001:db8::1]:1")),
         some none] := by decide +kernel

end Snowflake.Attribution.C18
