import Snowflake.Model.NameMatcher
/-!
# C06 — proxies relay only to bridges inside their accepted pattern

Theorems about `Snowflake.Model.NameMatcher` (tied to the source in `Tie/NameMatcher.lean`).
-/
namespace Snowflake.NameMatcher.C06
open Snowflake.GoStr

theorem hasSuffix_iff (s p : Str) : hasSuffix s p = true ↔ p <:+ s := by
  simp [hasSuffix]

theorem isMember_iff (m : Matcher) (s : Str) :
    isMember m s = true ↔ if m.exact = true then s = m.suffix else m.suffix <:+ s := by
  unfold isMember
  split <;> simp [hasSuffix_iff]

theorem isSupersetOf_iff (m o : Matcher) :
    isSupersetOf m o = true ↔
      if m.exact = true then o.exact = true ∧ m.suffix = o.suffix else m.suffix <:+ o.suffix := by
  unfold isSupersetOf
  split <;> simp [hasSuffix_iff]

/-- **Superset implies membership**, for all matchers and all hostnames. -/
theorem superset_sound (m o : Matcher) (s : Str)
    (hsup : isSupersetOf m o = true) (hmem : isMember o s = true) : isMember m s = true := by
  rw [isMember_iff] at hmem ⊢
  rw [isSupersetOf_iff] at hsup
  split at hsup
  · rw [if_pos hsup.1] at hmem
    rw [if_pos ‹_›, hmem, hsup.2]
  · rw [if_neg ‹_›]
    split at hmem
    · rw [hmem]; exact hsup
    · exact hsup.trans hmem

theorem superset_sound_rules (a b h : Str)
    (hsup : isSupersetOf (new a) (new b) = true) (hmem : isMember (new b) h = true) :
    isMember (new a) h = true := superset_sound _ _ _ hsup hmem

/-- **The judgement is also complete**: whenever `m` accepts every hostname `o` accepts, `IsSupersetOf` says so —
the broker rejects no proxy whose pattern covers its own. -/
theorem superset_complete (m o : Matcher) (h : ∀ s, isMember o s = true → isMember m s = true) :
    isSupersetOf m o = true := by
  simp only [isMember_iff] at h
  rw [isSupersetOf_iff]
  by_cases hm : m.exact = true <;> by_cases ho : o.exact = true <;>
    simp only [hm, ho, if_true, true_and] at h ⊢
  · exact (h _ rfl).symm
  · -- an exact pattern cannot cover a suffix pattern: that one accepts two strings of different lengths
    have h1 := h o.suffix (List.suffix_refl _)
    have h2 := h (0 :: o.suffix) (List.suffix_cons _ _)
    rw [← h1] at h2
    exact absurd (congrArg List.length h2) (by simp)
  · exact h _ rfl
  · exact h _ (List.suffix_refl _)

/-- Exact characterisation of `IsSupersetOf` as inclusion of the accepted hostname sets. -/
theorem superset_iff (m o : Matcher) :
    isSupersetOf m o = true ↔ ∀ s, isMember o s = true → isMember m s = true :=
  ⟨fun h s hs => superset_sound m o s h hs, superset_complete m o⟩

/-- A proxy whose pattern is the broker's allowed pattern is accepted. -/
theorem superset_refl (m : Matcher) : isSupersetOf m m = true :=
  (superset_iff m m).2 fun _ h => h

/-- … and the judgement is transitive: both follow from `superset_iff`. -/
theorem superset_trans (a b c : Matcher) (h1 : isSupersetOf a b = true) (h2 : isSupersetOf b c = true) :
    isSupersetOf a c = true :=
  (superset_iff a c).2 fun s h => (superset_iff a b).1 h1 s ((superset_iff b c).1 h2 s h)

/-- **Broker check is sound.** A poll that passes `CheckProxyRelayPattern` comes from a proxy whose
(declared, or for legacy proxies presumed) pattern accepts every hostname the broker's allowed
pattern accepts — so no relay inside the broker's allowed pattern is outside the proxy's consent. -/
theorem broker_check_sound (allowed presumed pattern : Str) (nonSupported : Bool) (host : Str)
    (hc : brokerCheck allowed presumed pattern nonSupported = true)
    (hh : isMember (new allowed) host = true) :
    isMember (new (if nonSupported then presumed else pattern)) host = true :=
  superset_sound _ _ _ hc hh

/-- **The broker check, exactly**: a poll passes `CheckProxyRelayPattern` iff the proxy's (declared or presumed)
pattern accepts every hostname the broker's allowed pattern accepts — neither too lenient nor rejecting a proxy
that does cover the allowed pattern. -/
theorem broker_check_iff (allowed presumed pattern : Str) (nonSupported : Bool) :
    brokerCheck allowed presumed pattern nonSupported = true ↔
      ∀ host, isMember (new allowed) host = true →
        isMember (new (if nonSupported then presumed else pattern)) host = true :=
  superset_iff _ _

/-- A poll failing the check is exactly a poll whose pattern is not judged a superset. -/
theorem broker_rejects_iff (allowed presumed pattern : Str) (nonSupported : Bool) :
    brokerCheck allowed presumed pattern nonSupported = false ↔
      isSupersetOf (new (if nonSupported then presumed else pattern)) (new allowed) = false := Iff.rfl

/-- **Proxy acceptance.** If the proxy does not reject a broker-supplied, non-empty relay URL then the
URL's hostname is a member of the proxy's own pattern and its scheme is `wss` unless non-TLS relays
were explicitly allowed. -/
theorem proxy_accepts_only_member_and_wss (relayURL : Str) (member allow : Bool) (scheme : Str)
    (hne : relayURL ≠ []) (hacc : proxyRejects relayURL member allow scheme = false) :
    member = true ∧ (allow = true ∨ scheme = [119, 115, 115]) := by
  unfold proxyRejects at hacc
  cases member <;> cases allow <;> simp_all

/-- An empty relay URL (legacy broker) is never rejected here; the proxy then uses its own
configured relay (see `datachannelHandler`). -/
theorem empty_url_not_rejected (member allow : Bool) (scheme : Str) :
    proxyRejects [] member allow scheme = false := by
  simp [proxyRejects]

/-- Conversely every URL outside the pattern, and every non-`wss` URL without the explicit flag, is rejected. -/
theorem proxy_rejects_outside (relayURL : Str) (member allow : Bool) (scheme : Str) (hne : relayURL ≠ [])
    (h : member = false ∨ (allow = false ∧ scheme ≠ [119, 115, 115])) :
    proxyRejects relayURL member allow scheme = true := by
  unfold proxyRejects
  rcases h with h | ⟨h1, h2⟩
  · simp [h, hne]
  · simp [h1, h2, hne]

/-- `snowflake.torproject.net$` ⊇ `^snowflake.torproject.net$`, and the member is accepted. -/
example :
    isSupersetOf (new (ofString "snowflake.torproject.net$")) (new (ofString "^snowflake.torproject.net$")) = true
    ∧ isMember (new (ofString "^snowflake.torproject.net$")) (ofString "snowflake.torproject.net") = true
    ∧ isMember (new (ofString "snowflake.torproject.net$")) (ofString "snowflake.torproject.net") = true := by
  decide +kernel

/-- The superset test is not trivially true. -/
example : isSupersetOf (new (ofString "^a.example$")) (new (ofString "example$")) = false := by decide +kernel

end Snowflake.NameMatcher.C06
