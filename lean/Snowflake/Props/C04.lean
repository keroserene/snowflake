import Snowflake.Props.C03
/-!
# C04 — every broker request completes in bounded time; no ghost proxies

Theorems about the broker model `Snowflake.Model.Broker` (repaired skeleton, `fixed = true`) and
kernel-checked deadlock witnesses for the originally pinned skeleton (`fixed = false`).

Time is abstracted (timer labels are enabled at any time after arming).  "Bounded time" is therefore
proved in this form: from *every* reachable state, *every* unfinished request can be driven to its
response by at most 7 system steps (no further arrivals needed; timer firings count as system steps,
i.e. the only waits are the two protocol timeouts).  Together with the fact that no system step of
another thread disables these steps, no request can hang.
-/
namespace Snowflake.Broker.C04
open Snowflake.Broker

variable {st st' : St} {bridge : Nat → Option Nat}

/-! ## Bounded completion

The statement is about one run that exists from each reachable state.  Steps of other threads may disable
the step chosen here and raise the rank by one (`wTimer p` does both to a client at `sendOffer p`), but they
lead to reachable states, where the statement holds again.  A rank counts the system steps left along one
fixed path (at most 6 / 5 / 2; the bounds 8 and 6 of `poll_completes`, `client_completes` are not tight). -/

/-- Poll `p`: `add`, `wTimer`, `wCrit`, then `hIdle` (removed from the heap in time) or `wLate`, `wFwd`
(a client had popped it), then `hRespond`.  The last line is for `.forward _` and `.done` (no `.none` at
`.waitOffer`, by `SessOK.wnone`). -/
def pollRank (s : Sess) : Nat :=
  match s.h with
  | .absent | .done => 0
  | .gotOffer _ | .idle => 1
  | .sendPolls => 6
  | .waitOffer =>
    match s.w with
    | .select => 5
    | .timedOut => 4
    | .lateRecv => 3
    | _ => 2

/-- Client `c`: `cMatch` (or `cReject`/`cDeny`), the rendezvous with the waiter of its proxy (`wOffer`, or
`wCrit` and `wLate` when the proxy timeout has fired), `cTimer`, `cFin`. -/
def clientRank (st : St) (c : Nat) : Nat :=
  match (st.cs c).pc with
  | .absent | .done => 0
  | .fin _ => 1
  | .waitAnswer _ => 2
  | .sendOffer p => if (st.ss p).w = .timedOut then 4 else 3
  | .start => 5

def ansRank (r : Ans) : Nat :=
  match r.pc with
  | .absent | .done => 0
  | .send _ => 1
  | .lookup => 2

theorem progress_of_step {l : Lab} {rank : St → Nat} (hs : Step st l st') (hl : l.isEnv = false)
    (h : rank st' < rank st) :
    ∃ l st', l.isEnv = false ∧ step true st l = some st' ∧ rank st' < rank st :=
  ⟨l, st', hl, hs.step_eq, h⟩

theorem poll_progress (hi : Inv st) (p : Nat) (hu : ¬((st.ss p).h = .absent ∨ (st.ss p).h = .done)) :
    ∃ l st', l.isEnv = false ∧ step true st l = some st' ∧ pollRank (st'.ss p) < pollRank (st.ss p) := by
  have hp := hi.sess p
  cases hh : (st.ss p).h with
  | absent => exact absurd (.inl hh) hu
  | done => exact absurd (.inr hh) hu
  | sendPolls => exact progress_of_step (.add p hh) rfl (by simp [pollRank, hh])
  | gotOffer c =>
    cases hb : st.bridge (st.cs c).fp with
    | none => exact progress_of_step (.hRespondNoBridge p c hh hb) rfl (by simp [pollRank, hh])
    | some u => exact progress_of_step (.hRespondUrl p c u hh hb) rfl (by simp [pollRank, hh])
  | idle => exact progress_of_step (.hRespondIdle p hh) rfl (by simp [pollRank, hh])
  | waitOffer =>
    cases hw : (st.ss p).w with
    | none => have := hp.wnone hw; simp [hh] at this
    | select => exact progress_of_step (.wTimer p hw) rfl (by simp [pollRank, hh, hw])
    | timedOut =>
      cases hheap : (st.ss p).inHeap with
      | true => exact progress_of_step (.wCritRemove p hw hheap) rfl (by simp [pollRank, hh, hw])
      | false => exact progress_of_step (.wCritLate p hw hheap) rfl (by simp [pollRank, hh, hw])
    | lateRecv =>
      -- popped, but no offer yet: the client `c` that popped it still stands at `sendOffer p`
      have hwait := hp.wwait (.inr (.inr hw))
      have hpop : (st.ss p).popBy.isSome := hwait.2.2.2.resolve_left (by simp [hp.late hw])
      obtain ⟨c, hc⟩ := Option.isSome_iff_exists.mp hpop
      have e := (hi.link.offerFrom_or_sendOffer hc).resolve_left (by simp [hwait.2.1])
      exact progress_of_step (.wLate p c hw e) rfl (by simp [pollRank, hh, hw])
    | forward c => exact progress_of_step (.wFwd p c hw hh) rfl (by simp [pollRank, hh, hw])
    | done => exact progress_of_step (.hIdle p hh ((hp.wdone hw).2 hh)) rfl (by simp [pollRank, hh, hw])

theorem ans_progress (a : Nat) (hu : ¬((st.as a).pc = .absent ∨ (st.as a).pc = .done)) :
    ∃ l st', l.isEnv = false ∧ step true st l = some st' ∧ ansRank (st'.as a) < ansRank (st.as a) := by
  cases hh : (st.as a).pc with
  | absent => exact absurd (.inl hh) hu
  | done => exact absurd (.inr hh) hu
  | lookup =>
    cases hm : (st.ss (st.as a).sid).inMap with
    | true => exact progress_of_step (.aLookupFound a hh hm) rfl (by simp [ansRank, hh])
    | false => exact progress_of_step (.aLookupMissing a hh hm) rfl (by simp [ansRank, hh])
  | send p =>
    cases hb : (st.ss p).abuf with
    | none => exact progress_of_step (.aSendPut a p hh hb) rfl (by simp [ansRank, hh])
    | some b => exact progress_of_step (.aSendDrop a p b hh hb) rfl (by simp [ansRank, hh])

theorem client_progress (hr : Reachable bridge st) (c : Nat)
    (hu : ¬((st.cs c).pc = .absent ∨ (st.cs c).pc = .done)) :
    ∃ l st', l.isEnv = false ∧ step true st l = some st' ∧ clientRank st' c < clientRank st c := by
  have hi := inv_reachable hr
  cases hh : (st.cs c).pc with
  | absent => exact absurd (.inl hh) hu
  | done => exact absurd (.inr hh) hu
  | start =>
    cases hb : st.bridge (st.cs c).fp with
    | none => exact progress_of_step (.cReject c hh hb) rfl (by simp [clientRank, hh])
    | some u =>
      have hbs := Option.isSome_of_eq_some hb
      cases hall : st.polls.all (fun q => !(waiting st (wantU (st.cs c).nat) q)) with
      | true => exact progress_of_step (.cDeny c hh hbs hall) rfl (by simp [clientRank, hh])
      | false =>
        -- some `q` waits in `c`'s pool, so a match is enabled (C03); it leads to `sendOffer`
        obtain ⟨q, _, hq⟩ := List.all_eq_false.mp hall
        obtain ⟨p, hp, _⟩ := (C03.match_or_deny hr c hh hbs).1 ⟨q, by simpa using hq⟩
        obtain ⟨st', hs⟩ := Option.isSome_iff_exists.mp hp
        refine ⟨_, st', rfl, hs, ?_⟩
        cases Step.of_step hs
        simp only [clientRank, hh, upd_same]
        split <;> decide
  | sendOffer p =>
    -- popped by `c`: in no heap, and its waiter runs
    have hk := hi.link.sendOffer c p hh
    have hp := hi.sess p
    have hpp := hp.popped (Option.isSome_of_eq_some hk.1)
    cases hw : (st.ss p).w with
    | none => exact absurd hw hpp.2
    | select => exact progress_of_step (.wOffer p c hw hh) rfl (by simp [clientRank, hh, hw])
    | timedOut => exact progress_of_step (.wCritLate p hw hpp.1) rfl (by simp [clientRank, hh, hw])
    | lateRecv => exact progress_of_step (.wLate p c hw hh) rfl (by simp [clientRank, hh, hw])
    -- `offerFrom = none`: the waiter is neither forwarding nor done
    | forward c' => exact absurd (hp.fwd c' hw).2.1 (by simp [hk.2.1])
    | done =>
      rcases (hp.wdone hw).1 with e | e
      · exact absurd (hp.closed e).2.2.2.2.1 (by simp [hk.1])
      · simp [hk.2.1] at e
  | waitAnswer p => exact progress_of_step (.cTimer c p hh) rfl (by simp [clientRank, hh])
  | fin p => exact progress_of_step (.cFin c p hh) rfl (by simp [clientRank, hh])

theorem finishes_of_progress (rank : St → Nat) {fin : St → Prop} {n : Nat} (hn : ∀ s, rank s ≤ n)
    (hprog : ∀ s, Reachable bridge s → ¬fin s →
      ∃ l s', l.isEnv = false ∧ step true s l = some s' ∧ rank s' < rank s)
    (hr : Reachable bridge st) :
    ∃ ls st', ls.length ≤ n ∧ (∀ l ∈ ls, l.isEnv = false) ∧ runL true st ls = some st' ∧ fin st' := by
  simp only [runL_eq]
  obtain ⟨ls, st', hlen, h⟩ := TotalMap.runL_of_progress _ fin _ rank (fun _ l _ h _ hs => .step l h hs) hprog hr
  exact ⟨ls, st', Nat.le_trans hlen (hn st), h⟩

/-- **Every proxy poll gets its response**: from any reachable state, at most 8 system steps (the
proxy timeout being one of them) complete it — whatever the other requests do or did. -/
theorem poll_completes (hr : Reachable bridge st) (p : Nat) :
    ∃ ls st', ls.length ≤ 8 ∧ (∀ l ∈ ls, l.isEnv = false) ∧ runL true st ls = some st'
      ∧ ((st'.ss p).h = .absent ∨ (st'.ss p).h = .done) :=
  finishes_of_progress (fun s => pollRank (s.ss p)) (fun s => by
      unfold pollRank; repeat' split
      all_goals decide)
    (fun _ hs => poll_progress (inv_reachable hs) p) hr

/-- **Every client poll gets its response** within at most 6 system steps (the client timeout being
one of them). -/
theorem client_completes (hr : Reachable bridge st) (c : Nat) :
    ∃ ls st', ls.length ≤ 6 ∧ (∀ l ∈ ls, l.isEnv = false) ∧ runL true st ls = some st'
      ∧ ((st'.cs c).pc = .absent ∨ (st'.cs c).pc = .done) :=
  finishes_of_progress (fun s => clientRank s c) (fun s => by
      unfold clientRank; repeat' split
      all_goals decide)
    (fun _ hs => client_progress hs c) hr

/-- **Every proxy answer request gets its response** within at most 2 system steps, none of them a
timer: it never waits for anybody. -/
theorem answer_completes (hr : Reachable bridge st) (a : Nat) :
    ∃ ls st', ls.length ≤ 2 ∧ (∀ l ∈ ls, l.isEnv = false) ∧ runL true st ls = some st'
      ∧ ((st'.as a).pc = .absent ∨ (st'.as a).pc = .done) :=
  finishes_of_progress (fun s => ansRank (s.as a)) (fun s => by
      unfold ansRank; repeat' split
      all_goals decide)
    (fun _ _ => ans_progress a) hr

/-- **The gauge is the number of registrations**, always. -/
theorem gauge_matches_map (hr : Reachable bridge st) : st.gauge = (mapCount st : Int) :=
  (inv_reachable hr).list.gauge

/-- **No ghost proxies.** Once all poll and client requests have completed, no proxy waits in either
heap, the session-id map is empty and the available-proxies gauge is 0. -/
theorem quiescent_clean (hr : Reachable bridge st)
    (hp : ∀ p, (st.ss p).h = .absent ∨ (st.ss p).h = .done)
    (hc : ∀ c, (st.cs c).pc = .absent ∨ (st.cs c).pc = .done) :
    (∀ p, (st.ss p).inHeap = false ∧ (st.ss p).inMap = false) ∧ st.gauge = 0 := by
  have hi := inv_reachable hr
  have key : ∀ p, (st.ss p).inHeap = false ∧ (st.ss p).inMap = false := by
    intro p
    -- in a heap only while the handler waits for an offer
    have hheap : (st.ss p).inHeap = false := Bool.eq_false_iff.mpr fun hh => by
      have := ((hi.sess p).inHeap hh).1
      rcases hp p with e | e <;> simp [e] at this
    -- in the map only while in a heap or until the client that popped it has cleaned up
    refine ⟨hheap, Bool.eq_false_iff.mpr fun hm => ?_⟩
    have hpop := ((hi.sess p).inMap hm).resolve_left (by simp [hheap])
    obtain ⟨c, hcp⟩ := Option.isSome_iff_exists.mp hpop
    have := (hi.link.popBy c p hcp).1
    rcases hc c with e | e <;> simp [e, hm] at this
  refine ⟨key, ?_⟩
  have : mapCount st = 0 := by
    unfold mapCount
    rw [List.length_eq_zero_iff, List.filter_eq_nil_iff]
    intro p _; simp [(key p).2]
  rw [hi.list.gauge, this]; rfl

/-- … and a fresh client (any NAT type, a bridge the broker knows) is then told there are no
proxies: `cDeny` is enabled and no match is. -/
theorem quiescent_fresh_client_denied (hr : Reachable bridge st)
    (hp : ∀ p, (st.ss p).h = .absent ∨ (st.ss p).h = .done)
    (hc : ∀ c, (st.cs c).pc = .absent ∨ (st.cs c).pc = .done)
    (c : Nat) (nat : NatT) (fp : Nat) (st1 : St)
    (harr : step true st (.clientArrive c nat fp) = some st1) (hb : (bridge fp).isSome) :
    (step true st1 (.cDeny c)).isSome ∧ ∀ p, step true st1 (.cMatch c p) = none := by
  have hr1 : Reachable bridge st1 := .step _ hr harr
  have hq := (quiescent_clean hr hp hc).1
  have hbr := bridge_reachable hr
  cases Step.of_step harr
  refine (C03.match_or_deny hr1 c (by simp) (by simpa [hbr] using hb)).2 fun q => ?_
  simp [waiting, (hq q).1]

/-! ## The originally pinned skeleton deadlocks (findings F1, F2 and variants), kernel-checked -/

def b0 : Nat → Option Nat := fun fp => if fp = 0 then some 100 else none

/-- F1: the proxy timeout fires, the client pops the snowflake before the waiter's critical section:
client and poll are stuck forever, the map keeps the entry. -/
theorem pinned_poll_timeout_vs_match_deadlocks :
    (runL false (init b0) [.pollArrive 1 .unrestricted 0, .add 1, .wTimer 1, .clientArrive 101 .unknown 0,
        .cMatch 101 1, .wCrit 1]).map (fun st => (deadlocked false st, (st.ss 1).inMap)) = some (true, true) := by
  decide +kernel

/-- F2: the answer is looked up just before the client's timeout clean-up and sent after the client
stopped listening: the answer request is stuck forever. -/
theorem pinned_answer_vs_client_timeout_deadlocks :
    (runL false (init b0) [.pollArrive 1 .unrestricted 0, .add 1, .clientArrive 101 .unknown 0, .cMatch 101 1,
        .wOffer 1 101, .wFwd 1, .hRespond 1, .ansArrive 201 1, .cTimer 101, .aLookup 201, .cFin 101]).map
      (fun st => (deadlocked false st, ansUnfinished st 201)) = some (true, true) := by
  decide +kernel

/-- F2 variant: an answer posted before any client was matched, then the poll times out. -/
theorem pinned_early_answer_deadlocks :
    (runL false (init b0) [.pollArrive 1 .restricted 0, .add 1, .ansArrive 201 1, .aLookup 201, .wTimer 1,
        .wCrit 1, .hIdle 1, .hRespond 1]).map (fun st => (deadlocked false st, ansUnfinished st 201))
      = some (true, true) := by
  decide +kernel

/-- The same schedules run to completion on the repaired skeleton, leaving nothing behind. -/
theorem fixed_same_schedules_complete :
    (runL true (init b0) [.pollArrive 1 .unrestricted 0, .add 1, .wTimer 1, .clientArrive 101 .unknown 0,
        .cMatch 101 1, .wCrit 1, .wLate 1 101, .wFwd 1, .hRespond 1, .cTimer 101, .cFin 101]).map
      (fun st => (deadlocked true st, (st.ss 1).inMap, st.gauge, (st.ss 1).res)) = some (false, false, 0, .matched 101 100)
    ∧ (runL true (init b0) [.pollArrive 1 .unrestricted 0, .add 1, .clientArrive 101 .unknown 0, .cMatch 101 1,
        .wOffer 1 101, .wFwd 1, .hRespond 1, .ansArrive 201 1, .cTimer 101, .aLookup 201, .cFin 101, .aSend 201]).map
      (fun st => (deadlocked true st, ansUnfinished st 201, st.gauge)) = some (false, false, 0) := by
  decide +kernel

end Snowflake.Broker.C04
