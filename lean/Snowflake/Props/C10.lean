import Snowflake.Proofs.AmpDecode
/-!
# C10 — AMP armor round-trips and survives cache-style rewriting

Property theorems about `Snowflake.Model.Amp` (the model of `/repo/common/amp/armor_encoder.go`,
`armor_decoder.go`, on top of `Base/Base64.lean`).
-/
namespace Snowflake.Amp.C10
open Snowflake.Base64 (Bytes)
open Snowflake.Amp

/-- **Write chunking does not matter.**  Whatever the sequence of `Write` calls (empty ones included),
`NewArmorEncoder … Close` produces the armor of the concatenated payload. -/
theorem encode_chunking_independent (cs : List Bytes) : encodeChunks cs = armor cs.flatten := by
  unfold armor
  rw [encodeChunks_eq, encodeChunks_eq]
  simp

/-- A byte of the standard base64 alphabet, or `=`. -/
def isB64 (c : UInt8) : Bool := (Base64.std.val c).isSome || c == 61

/-- Text of a `pre` element with words `e`: a newline, then every word followed by a newline. -/
def elemText (e : List Bytes) : Bytes := [10] ++ renderWords e

theorem renderElem_eq (e : List Bytes) : renderElem e = openTag ++ elemText e ++ closeTag ++ [10] := by
  simp [renderElem, elemText, preOpen, preClose, openTag, closeTag]

theorem renderWords_length_le : ∀ (e : List Bytes), (∀ w ∈ e, w.length ≤ bytesPerChunk) →
    (renderWords e).length ≤ e.length * (bytesPerChunk + 1) := by
  intro e
  induction e with
  | nil => intro _; simp [renderWords]
  | cons w ws ih =>
    intro h
    have h1 := h w (List.mem_cons_self ..)
    have h2 := ih (fun x hx => h x (List.mem_cons_of_mem _ hx))
    simp only [renderWords, List.map_cons, List.flatten_cons, List.length_append, List.length_cons,
      List.length_nil] at h2 ⊢
    simp only [bytesPerChunk] at *
    omega

theorem b64_bytes (p : Bytes) : ∀ c ∈ (48 :: Base64.encode Base64.std p), isB64 c = true := by
  intro c hc
  rcases List.mem_cons.mp hc with rfl | hc
  · decide
  · exact Base64.encode_all Base64.std isB64 (fun i => by simp [isB64, Base64.std_good.rt i]) (by decide) p c hc

/-- **Shape of the armor.**  The armored document is the fixed boilerplate around at least one `pre`
element; each element is `<pre>\n(word\n)+</pre>\n` with at most `chunksPerElement` words of 1 to
`bytesPerChunk` base64 bytes, its text is at most 32 737 bytes — below `elementSizeLimit` = 32 KiB with
the two bytes of look-ahead the decoder's tokenizer needs —, and the words, concatenated, are the
version byte `'0'` followed by the standard base64 of the payload. -/
theorem armor_shape (p : Bytes) :
    ∃ elems : List (List Bytes),
      armor p = boilerplateStart ++ (elems.map renderElem).flatten ++ boilerplateEnd
      ∧ elems ≠ []
      ∧ elems.flatten.flatten = 48 :: Base64.encode Base64.std p
      ∧ ∀ e ∈ elems, e ≠ [] ∧ e.length ≤ chunksPerElement
          ∧ (elemText e).length ≤ 32737 ∧ (elemText e).length + 2 < elementSizeLimit
          ∧ ∀ w ∈ e, 1 ≤ w.length ∧ w.length ≤ bytesPerChunk ∧ ∀ c ∈ w, isB64 c = true := by
  obtain ⟨elems, h1, h2, h3⟩ := body_shape (48 :: Base64.encode Base64.std p)
  refine ⟨elems, ?_, ?_, h2, ?_⟩
  · unfold armor
    rw [encodeChunks_eq, List.flatten_singleton, h1]
  · intro h0; subst h0; simp at h2
  · intro e he
    obtain ⟨g1, g2, g3⟩ := h3 e he
    have hlen := renderWords_length_le e (fun w hw => (g3 w hw).2)
    have hl : (elemText e).length ≤ 32737 := by
      simp only [elemText, List.length_append, List.length_cons, List.length_nil]
      simp only [bytesPerChunk, chunksPerElement] at *
      omega
    refine ⟨g1, g2, hl, by simp only [elementSizeLimit]; omega, ?_⟩
    intro w hw
    refine ⟨List.length_pos_iff.mpr (g3 w hw).1, (g3 w hw).2, ?_⟩
    intro c hc
    apply b64_bytes p
    rw [← h2]
    exact List.mem_flatten.mpr ⟨w, List.mem_flatten.mpr ⟨e, he, hw⟩, hc⟩

/-! ## Decoder on laid-out documents -/

/-- A `pre` element written as `<pre> lead w₁ s₁ … wₖ sₖ </pre>` and what follows it up to the next
element (or the end of the document). -/
structure PreElem where
  lead : Bytes
  items : List Item
  filler : Bytes

def PreElem.seg (e : PreElem) : Seg := ⟨layText e.lead e.items, e.filler⟩

/-- The layout is as `ItemsOk` says, the text stays below the tokenizer's limit, and what follows the
element is harmless. -/
def PreElem.Ok (e : PreElem) : Prop :=
  AllWs e.lead ∧ ItemsOk e.items ∧ (layText e.lead e.items).length + 2 < elementSizeLimit ∧ Neutral e.filler

def document (pre : Bytes) (es : List PreElem) : Bytes := pre ++ renderSegs (es.map PreElem.seg)

def wordsOf (es : List PreElem) : List Bytes := (es.map (fun e => e.items.map Item.word)).flatten

theorem itemsOk_mem (items : List Item) (hok : ItemsOk items) :
    ∀ i ∈ items, i.word ≠ [] ∧ NoWs i.word ∧ AllWs i.sep := by
  fun_induction ItemsOk items with
  | case1 => nofun
  | case2 i => exact fun x hx => List.mem_singleton.mp hx ▸ hok
  | case3 i j r ih =>
    obtain ⟨h1, h2, h3, _, h5⟩ := hok
    exact List.forall_mem_cons.mpr ⟨⟨h1, h2, h3⟩, ih h5⟩

theorem ws_not_lt (c : UInt8) (h : isASCIIWhitespace c = true) : c ≠ 60 := by
  intro h0; subst h0; revert h; decide

theorem b64_not_lt (c : UInt8) (h : isB64 c = true) : c ≠ 60 := by
  intro h0; subst h0; revert h; decide

/-- **Master theorem for the decoder.**  Any document consisting of a harmless prefix and `pre`
elements laid out with arbitrary ASCII whitespace, each followed by harmless bytes, whose words
concatenate to `'0'` + base64 of `p`, decodes to exactly `p` — for every sequence of positive read
sizes on the returned reader. -/
theorem layout_decodes (sizes : Nat → Nat) (hs : ∀ i, 1 ≤ sizes i) (p : Bytes) (pre : Bytes) (es : List PreElem)
    (hpre : Neutral pre) (hes : ∀ e ∈ es, e.Ok)
    (hw : (wordsOf es).flatten = 48 :: Base64.encode Base64.std p) :
    decode sizes (document pre es) = .read p none := by
  have hwordbytes : ∀ e ∈ es, ∀ i ∈ e.items, ∀ c ∈ i.word, c ≠ 60 := by
    intro e he i hi c hc
    apply b64_not_lt
    apply b64_bytes p
    rw [← hw]
    refine List.mem_flatten.mpr ⟨i.word, ?_, hc⟩
    exact List.mem_flatten.mpr ⟨e.items.map Item.word, List.mem_map_of_mem he, List.mem_map_of_mem hi⟩
  have hsegs : ∀ s ∈ es.map PreElem.seg, s.Ok := by
    intro s hs'
    obtain ⟨e, he, rfl⟩ := List.mem_map.mp hs'
    obtain ⟨g1, g2, g3, g4⟩ := hes e he
    refine ⟨?_, g3, g4⟩
    intro c hc
    simp only [PreElem.seg, layText, List.mem_append, List.mem_flatten, List.mem_map] at hc
    rcases hc with hc | ⟨l, ⟨i, hi, rfl⟩, hc⟩
    · exact ws_not_lt c (g1 c hc)
    · simp only [Item.bytes, List.mem_append] at hc
      rcases hc with hc | hc
      · exact hwordbytes e he i hi c hc
      · exact ws_not_lt c ((itemsOk_mem e.items g2 i hi).2.2 c hc)
  unfold document
  rw [decode_layout sizes pre _ hpre hsegs]
  have hwords : ((es.map PreElem.seg).map (fun s => words s.text)).flatten = wordsOf es := by
    congr 1
    rw [List.map_map]
    apply List.map_congr_left
    intro e he
    obtain ⟨g1, g2, _, _⟩ := hes e he
    exact words_layText e.lead e.items g1 g2
  rw [hwords]
  apply openAndRead_good sizes hs _ p _ hw
  intro w hw'
  obtain ⟨l, hl, hwl⟩ := List.mem_flatten.mp hw'
  obtain ⟨e, he, rfl⟩ := List.mem_map.mp hl
  obtain ⟨i, hi, rfl⟩ := List.mem_map.mp hwl
  exact (itemsOk_mem e.items (hes e he).2.1 i hi).1

/-! ## The armor as a laid-out document -/

/-- The layout `NewArmorEncoder` gives an element with words `e`: lead and separators are single
newlines; `filler` is what follows the element (a newline, after the last element also the trailer). -/
def armorElem (filler : Bytes) (e : List Bytes) : PreElem := ⟨[10], e.map (fun w => ⟨w, [10]⟩), filler⟩

theorem layText_armor (e : List Bytes) : layText [10] (e.map (fun w => (⟨w, [10]⟩ : Item))) = elemText e := by
  simp [layText, elemText, renderWords, Item.bytes, Function.comp_def]

theorem armorElem_bytes (tr : Bytes) (e : List Bytes) : (armorElem (10 :: tr) e).seg.bytes = renderElem e ++ tr := by
  simp [armorElem, PreElem.seg, Seg.bytes, layText_armor, renderElem_eq]

theorem allWs_nl : AllWs [10] := by
  intro c hc; simp only [List.mem_singleton] at hc; subst hc; decide

theorem itemsOk_armor : ∀ (e : List Bytes), (∀ w ∈ e, w ≠ [] ∧ NoWs w) → ItemsOk (e.map (fun w => (⟨w, [10]⟩ : Item))) := by
  intro e
  induction e with
  | nil => intro _; trivial
  | cons w r ih =>
    intro h
    have hw := h w (List.mem_cons_self ..)
    cases r with
    | nil => exact ⟨hw.1, hw.2, allWs_nl⟩
    | cons w' r =>
      exact ⟨hw.1, hw.2, allWs_nl, by simp, ih (fun x hx => h x (List.mem_cons_of_mem _ hx))⟩

theorem ws_filler_neutral (s : Bytes) (h : AllWs s) (hl : s.length + 2 < elementSizeLimit) : Neutral s :=
  neutral_text s (fun c hc => ws_not_lt c (h c hc)) hl

theorem ws_trailer_neutral (s : Bytes) (h : AllWs s) (hl : s.length + 2 < elementSizeLimit) :
    Neutral (s ++ boilerplateEnd) := by
  have hm : Markup boilerplateEnd := by show markupCheck boilerplateEnd = true; decide +kernel
  simpa [piecesBytes, Piece.bytes] using neutral_pieces [.text s, .markup boilerplateEnd]
    ⟨fun c hc => ws_not_lt c (h c hc), by omega, hm, by simp [PiecesOk, elementSizeLimit]⟩

def splitLines : Bytes → Bytes → List Bytes
  | [], cur => [cur.reverse]
  | c :: r, cur => if c == 10 then cur.reverse :: splitLines r [] else splitLines r (c :: cur)

/-- The boilerplate header itself is an admissible sequence of pieces: each line is complete markup
(the `style`/`noscript` line as a whole), followed by a newline. -/
def boilerplatePieces : List Piece :=
  ((splitLines boilerplateStart []).dropLast.map (fun l => [Piece.markup l, Piece.text [10]])).flatten

def piecesCheck : Nat → List Piece → Bool
  | n, [] => decide (n + 2 < elementSizeLimit)
  | n, .text t :: r => t.all (fun c => c != 60) && piecesCheck (n + t.length) r
  | n, .markup g :: r => decide (n + 2 < elementSizeLimit) && markupCheck g && piecesCheck 0 r

theorem piecesOk_of_check {ps : List Piece} {n : Nat} (h : piecesCheck n ps = true) : PiecesOk n ps := by
  fun_induction piecesCheck n ps with
  | case1 n => simpa [PiecesOk] using h
  | case2 n t r ih =>
    simp only [Bool.and_eq_true, List.all_eq_true, bne_iff_ne] at h
    exact ⟨h.1, ih h.2⟩
  | case3 n g r ih =>
    simp only [Bool.and_eq_true, decide_eq_true_eq] at h
    exact ⟨h.1.1, h.1.2, ih h.2⟩

theorem boilerplate_pieces : piecesBytes boilerplatePieces = boilerplateStart ∧ PiecesOk 0 boilerplatePieces :=
  ⟨by decide +kernel, piecesOk_of_check (by decide +kernel)⟩

theorem boilerplateStart_neutral : Neutral boilerplateStart :=
  boilerplate_pieces.1 ▸ neutral_pieces _ boilerplate_pieces.2

theorem b64_noWs (c : UInt8) (h : isB64 c = true) : isASCIIWhitespace c = false := by
  apply Bool.eq_false_iff.mpr
  intro hw
  -- each of the five white-space bytes is outside the alphabet
  simp only [isASCIIWhitespace, Bool.or_eq_true, beq_iff_eq] at hw
  rcases hw with (((rfl | rfl) | rfl) | rfl) | rfl <;> revert h <;> decide

theorem armorElem_ok (filler : Bytes) (hf : Neutral filler) (e : List Bytes)
    (hlen : (elemText e).length + 2 < elementSizeLimit)
    (hw : ∀ w ∈ e, 1 ≤ w.length ∧ w.length ≤ bytesPerChunk ∧ ∀ c ∈ w, isB64 c = true) : (armorElem filler e).Ok :=
  ⟨allWs_nl,
   itemsOk_armor e fun w hw' => ⟨List.length_pos_iff.mp (hw w hw').1, fun c hc => b64_noWs c ((hw w hw').2.2 c hc)⟩,
   by rw [armorElem, layText_armor]; exact hlen, hf⟩

/-- **Round trip.**  For every payload `p` and every sequence of positive buffer sizes used to read the
decoder, `NewArmorDecoder` on the armor of `p` succeeds and reading it to the end returns exactly `p`
followed by a clean `io.EOF`. -/
theorem roundtrip (p : Bytes) (sizes : Nat → Nat) (hs : ∀ i, 1 ≤ sizes i) :
    decode sizes (armor p) = .read p none := by
  obtain ⟨elems, h1, h2, h3, h4⟩ := armor_shape p
  -- the armor as a laid-out document: the trailer belongs to the filler of the last element
  obtain ⟨init, last, rfl⟩ : ∃ init last, elems = init ++ [last] :=
    ⟨_, _, (List.dropLast_concat_getLast h2).symm⟩
  have hdoc : armor p = document boilerplateStart
      (init.map (armorElem [10]) ++ [armorElem (10 :: boilerplateEnd) last]) := by
    rw [h1]
    simp [document, renderSegs, armorElem_bytes, Function.comp_def]
  rw [hdoc]
  refine layout_decodes sizes hs p _ _ boilerplateStart_neutral (fun x hx => ?_) ?_
  · have hok := fun f hf e he => armorElem_ok f hf e (h4 e he).2.2.2.1 (h4 e he).2.2.2.2
    rcases List.mem_append.mp hx with hx | hx
    · obtain ⟨e, he, rfl⟩ := List.mem_map.mp hx
      exact hok _ (ws_filler_neutral [10] allWs_nl (by decide)) e (List.mem_append_left _ he)
    · rw [List.mem_singleton.mp hx]
      exact hok _ (ws_trailer_neutral [10] allWs_nl (by decide)) last (by simp)
  · rw [← h3]
    simp [wordsOf, armorElem, Function.comp_def]

/-- **No two payloads share an armor.**  The armor encoder is injective: a cache or decoder can never be
handed one document that stands for two different payloads. -/
theorem armor_injective (p q : Bytes) (h : armor p = armor q) : p = q := by
  have hp := roundtrip p (fun _ => 1) (fun _ => Nat.le_refl 1)
  rw [h, roundtrip q (fun _ => 1) (fun _ => Nat.le_refl 1)] at hp
  injection hp with hp; exact hp.symm

/-- For the streaming encoder: two sequences of `Write` calls that produce the same document wrote the same
bytes in total (only the chunking may differ). -/
theorem encoder_writes_unambiguous (a b : List Bytes) (h : encodeChunks a = encodeChunks b) :
    a.flatten = b.flatten := by
  rw [encode_chunking_independent, encode_chunking_independent] at h
  exact armor_injective _ _ h

/-- **Re-separation with ASCII whitespace.**  Take the words of the armor of `p` (or any other split of
`'0'` + base64(`p`) into non-empty words) and write them into `pre` elements with *any* runs of
`\t \n \f \r space` before, between and after them (between two words at least one), any harmless bytes
— in particular any whitespace — after each element, and the boilerplate around: as long as every
element's text stays below the tokenizer limit the decoder's result is that of the original armor. -/
theorem whitespace_invariant (p : Bytes) (sizes : Nat → Nat) (hs : ∀ i, 1 ≤ sizes i) (es : List PreElem)
    (hes : ∀ e ∈ es, e.Ok) (hw : (wordsOf es).flatten = 48 :: Base64.encode Base64.std p) :
    decode sizes (document boilerplateStart es) = decode sizes (armor p) := by
  rw [roundtrip p sizes hs, layout_decodes sizes hs p _ es boilerplateStart_neutral hes hw]

/-- **Markup outside the `pre` elements.**  Replace the boilerplate header by any admissible sequence of
pieces — `<`-free text and complete markup that is not a `pre` tag (`Markup`), no text run reaching the
buffer limit — and put any such sequence after each element: the decoder's result is unchanged.  (The boilerplate itself is such a sequence: `boilerplate_pieces`.) -/
theorem outside_markup_invariant (p : Bytes) (sizes : Nat → Nat) (hs : ∀ i, 1 ≤ sizes i)
    (pre : List Piece) (hpre : PiecesOk 0 pre)
    (es : List PreElem) (fillers : PreElem → List Piece)
    (hfill : ∀ e ∈ es, e.filler = piecesBytes (fillers e) ∧ PiecesOk 0 (fillers e))
    (hes : ∀ e ∈ es, AllWs e.lead ∧ ItemsOk e.items ∧ (layText e.lead e.items).length + 2 < elementSizeLimit)
    (hw : (wordsOf es).flatten = 48 :: Base64.encode Base64.std p) :
    decode sizes (document (piecesBytes pre) es) = decode sizes (armor p) := by
  rw [roundtrip p sizes hs]
  apply layout_decodes sizes hs p _ es (neutral_pieces pre hpre) _ hw
  intro e he
  obtain ⟨g1, g2, g3⟩ := hes e he
  obtain ⟨f1, f2⟩ := hfill e he
  exact ⟨g1, g2, g3, by rw [f1]; exact neutral_pieces _ f2⟩

/-! ## Errors -/

theorem decode_error_after (sizes : Nat → Nat) (pre : Bytes) (segs : List Seg) {rest : Bytes} (hpre : Neutral pre)
    (hok : ∀ s ∈ segs, s.Ok)
    (h : ∀ b n, n + 2 < elementSizeLimit → (scanRun (txt b n) rest).2 ≠ none) :
    (decode sizes (pre ++ renderSegs segs ++ rest)).isError = true := by
  obtain ⟨b, n, hn, hd⟩ := decode_after sizes pre segs rest hpre hok
  rw [hd]
  exact openAndRead_isError sizes _ (h b n hn)

/-- **Unknown version.**  If the first word of the first non-empty element starts with a byte other
than `'0'`, `NewArmorDecoder` fails with `ErrUnknownVersion` of that byte. -/
theorem errors_classified_unknown_version (sizes : Nat → Nat) (pre : Bytes) (segs : List Seg) (hpre : Neutral pre)
    (hok : ∀ s ∈ segs, s.Ok) (v : UInt8) (w : Bytes) (rest : List Bytes)
    (hw : (segs.map (fun s => words s.text)).flatten = (v :: w) :: rest) (hv : v ≠ 48) :
    decode sizes (pre ++ renderSegs segs) = .initErr (.unknownVersion v) := by
  rw [decode_layout sizes pre segs hpre hok, hw]
  simp [openAndRead, hv]

/-- **Stray `</pre>`** (an end tag outside any `pre` element) is an error; before any armor text it is
the error `NewArmorDecoder` itself returns. -/
theorem errors_classified_stray (sizes : Nat → Nat) (pre : Bytes) (segs : List Seg) (rest : Bytes) (hpre : Neutral pre)
    (hok : ∀ s ∈ segs, s.Ok) :
    (decode sizes (pre ++ renderSegs segs ++ (closeTag ++ rest))).isError = true :=
  decode_error_after sizes pre segs hpre hok (fun b n hn => by rw [scanRun_stray b n hn]; nofun)

theorem errors_classified_stray_first (sizes : Nat → Nat) (pre rest : Bytes) (hpre : Neutral pre) :
    decode sizes (pre ++ (closeTag ++ rest)) = .initErr .strayPre := by
  obtain ⟨b, n, hn, hd⟩ := decode_after sizes pre [] (closeTag ++ rest) hpre nofun
  rw [scanRun_stray b n hn] at hd
  simpa [renderSegs, openAndRead] using hd

/-- **Nested `<pre>`** is an error. -/
theorem errors_classified_nested (sizes : Nat → Nat) (pre : Bytes) (segs : List Seg) (t rest : Bytes) (hpre : Neutral pre)
    (hok : ∀ s ∈ segs, s.Ok) (ht : ∀ c ∈ t, c ≠ 60) (hl : t.length + 2 < elementSizeLimit) :
    (decode sizes (pre ++ renderSegs segs ++ (openTag ++ t ++ openTag ++ rest))).isError = true :=
  decode_error_after sizes pre segs hpre hok (fun b n hn => by rw [scanRun_nested b n hn t rest ht hl]; nofun)

/-- **Missing `</pre>`** (the document ends inside a `pre` element) is an error. -/
theorem errors_classified_missing (sizes : Nat → Nat) (pre : Bytes) (segs : List Seg) (t : Bytes) (hpre : Neutral pre)
    (hok : ∀ s ∈ segs, s.Ok) (ht : ∀ c ∈ t, c ≠ 60) (hl : t.length + 2 < elementSizeLimit) :
    (decode sizes (pre ++ renderSegs segs ++ (openTag ++ t))).isError = true :=
  decode_error_after sizes pre segs hpre hok (fun b n hn => by rw [scanRun_missing b n hn t ht hl]; nofun)

/-- **Oversized token.**  Whenever the tokenizer hits its buffer limit (a token of `elementSizeLimit`
bytes or more, look-ahead included) the decoder reports an error. -/
theorem errors_classified_exceeded (sizes : Nat → Nat) (doc : Bytes) (h : (tokenize doc).2 = .exceeded) :
    (decode sizes doc).isError = true := by
  refine openAndRead_isError sizes _ ?_
  show (scan false (tokenize doc).1 (tokenize doc).2).2 ≠ none
  rw [h]
  exact scan_exceeded

/-- In particular a `pre` element with `elementSizeLimit` or more bytes of text is an error. -/
theorem errors_classified_oversized_element (sizes : Nat → Nat) (pre : Bytes) (segs : List Seg) (t rest : Bytes)
    (hpre : Neutral pre) (hok : ∀ s ∈ segs, s.Ok) (ht : ∀ c ∈ t, c ≠ 60) (hl : elementSizeLimit ≤ t.length) :
    (decode sizes (pre ++ renderSegs segs ++ (openTag ++ t ++ rest))).isError = true :=
  decode_error_after sizes pre segs hpre hok (fun b n hn => scanRun_oversized b n hn t rest ht hl)

/-- **Bad base64.**  If any word after the version byte contains a byte that is neither in the standard
base64 alphabet nor `=` (words cannot contain line breaks), the decoder reports an error — whatever the
word boundaries and the read sizes.  (Truncated base64 and misplaced padding are covered by evaluated
instances below and, for padding in the middle, by `stream_padding_quirk`.) -/
theorem errors_classified_bad_base64 (sizes : Nat → Nat) (pre : Bytes) (segs : List Seg) (hpre : Neutral pre)
    (hok : ∀ s ∈ segs, s.Ok) (w : Bytes) (rest : List Bytes)
    (hw : (segs.map (fun s => words s.text)).flatten = (48 :: w) :: rest)
    (b : UInt8) (hb : b ∈ (w :: rest).flatten) (hbad : Base64.isBad Base64.std b = true) :
    (decode sizes (pre ++ renderSegs segs)).isError = true := by
  rw [decode_layout sizes pre segs hpre hok, hw]
  exact openAndRead_bad sizes w rest none b hb hbad

/-- **Any error of the scanning loop reaches the caller**: whatever has been written to the pipe, if
`decodeToWriter` returns an error (stray / nested / unterminated `pre`, buffer limit) then
`NewArmorDecoder` fails or the returned reader ends with an error — never with a clean `io.EOF`.
Together with totality (every function of the model is total: `decode` is defined on all byte
strings) this is the classification "data or an error". -/
theorem errors_classified_read_error (sizes : Nat → Nat) (ws : List Bytes) (e : Err) :
    (openAndRead sizes ws (some e)).isError = true := openAndRead_isError sizes ws nofun

/-! ## Non-vacuity and evaluated instances -/

/-- The armor of "hi", decoded with a 3-byte read buffer (an instance of `roundtrip`, evaluated). -/
example : decode (fun _ => 3) (armor [104, 105]) = .read [104, 105] none := by decide +kernel

/-- `<pre>\r\n \t0aG\f\fk=</pre> \t<pre> </pre>\n` between the boilerplate: re-separated armor of "hi". -/
example : decode (fun _ => 512) (boilerplateStart ++ [60, 112, 114, 101, 62, 13, 10, 32, 9, 48, 97, 71, 12, 12, 107, 61, 60, 47, 112, 114, 101, 62, 32, 9, 60, 112, 114, 101, 62, 32, 60, 47, 112, 114, 101, 62, 10] ++ boilerplateEnd)
    = .read [104, 105] none := by decide +kernel

/-- Markup before and after the element: a comment containing `<pre>`, a tag with `>` in a quoted
attribute value, a script whose text contains `<pre>`, a self-closing tag, a style element containing
`</pre>`, text. -/
example : decode (fun _ => 512)
    ([60, 33, 45, 45, 32, 60, 112, 114, 101, 62, 120, 60, 47, 112, 114, 101, 62, 32, 45, 45, 62, 60, 112, 32, 99, 108, 97, 115, 115, 61, 34, 97, 62, 98, 34, 62, 60, 115, 99, 114, 105, 112, 116, 62, 118, 97, 114, 32, 115, 61, 39, 60, 112, 114, 101, 62, 39, 59, 60, 47, 115, 99, 114, 105, 112, 116, 62] ++ preOpen ++ [48, 97, 71, 107, 61, 10] ++ preClose ++ [60, 98, 114, 47, 62, 60, 33, 45, 45, 120, 45, 45, 62, 60, 115, 116, 121, 108, 101, 62, 60, 47, 112, 114, 101, 62, 60, 47, 115, 116, 121, 108, 101, 62, 32, 116, 101, 120, 116, 32])
    = .read [104, 105] none := by decide +kernel

/-- The two runs of markup of that document, with text after each, are admissible in the sense of
`outside_markup_invariant`. -/
example : piecesCheck 0 [.markup [60, 33, 45, 45, 32, 60, 112, 114, 101, 62, 120, 60, 47, 112, 114, 101, 62, 32, 45, 45, 62, 60, 112, 32, 99, 108, 97, 115, 115, 61, 34, 97, 62, 98, 34, 62, 60, 115, 99, 114, 105, 112, 116, 62, 118, 97, 114, 32, 115, 61, 39, 60, 112, 114, 101, 62, 39, 59, 60, 47, 115, 99, 114, 105, 112, 116, 62], .text [32, 10], .markup [60, 98, 114, 47, 62, 60, 33, 45, 45, 120, 45, 45, 62, 60, 115, 116, 121, 108, 101, 62, 60, 47, 112, 114, 101, 62, 60, 47, 115, 116, 121, 108, 101, 62], .text [32, 116, 32]] = true := by
  decide +kernel

/-- Malformed documents (instances of the `errors_classified_*` theorems, evaluated): unknown version,
stray, nested, missing `</pre>`, bad base64 character, truncated base64. -/
example : decode (fun _ => 512) [60, 112, 114, 101, 62, 49, 97, 71, 107, 61, 60, 47, 112, 114, 101, 62] = .initErr (.unknownVersion 49) := by decide +kernel
example : decode (fun _ => 512) [60, 47, 112, 114, 101, 62, 60, 112, 114, 101, 62, 48, 97, 71, 107, 61, 60, 47, 112, 114, 101, 62] = .initErr .strayPre := by decide +kernel
example : decode (fun _ => 512) [60, 112, 114, 101, 62, 48, 97, 71, 107, 61, 60, 112, 114, 101, 62, 60, 47, 112, 114, 101, 62, 60, 47, 112, 114, 101, 62] = .read [104, 105] (some .nestedPre) := by decide +kernel
example : decode (fun _ => 512) [60, 112, 114, 101, 62, 48, 97, 71, 107, 61] = .read [104, 105] (some .missingPre) := by decide +kernel
example : decode (fun _ => 512) [60, 112, 114, 101, 62, 48, 97, 71, 33, 107, 61, 60, 47, 112, 114, 101, 62] = .read [] (some .corrupt) := by decide +kernel
example : decode (fun _ => 512) [60, 112, 114, 101, 62, 48, 97, 71, 107, 60, 47, 112, 114, 101, 62] = .read [] (some .unexpectedEOF) := by decide +kernel
example : decode (fun _ => 512) [] = .initErr .eof := by decide +kernel

/-- A quirk of Go's streaming base64 decoder that the model reproduces (and the harness confirms on
the real code): padding in the *middle* of the text is an error only if more text follows it in the same
`Decode` call, which depends on the word boundaries and on the caller's read size.  The same words read
with a 512-byte buffer give "hi" and `CorruptInputError`, with a 1-byte buffer "hihi" and no error.
Real armor never contains padding before its end, so `roundtrip` is unaffected. -/
theorem stream_padding_quirk :
    decode (fun _ => 512) [60, 112, 114, 101, 62, 48, 97, 71, 107, 61, 97, 71, 107, 61, 60, 47, 112, 114, 101, 62] = .read [104, 105] (some .corrupt)
    ∧ decode (fun _ => 1) [60, 112, 114, 101, 62, 48, 97, 71, 107, 61, 97, 71, 107, 61, 60, 47, 112, 114, 101, 62] = .read [104, 105, 104, 105] none := by
  decide +kernel

end Snowflake.Amp.C10
