import Snowflake.Model.BrokerReg
/-!
# C04, "no ghost proxies" — for arbitrary session ids

`Props/C04.lean` proves `quiescent_clean` on the full broker LTS under the assumption that the session ids of
concurrent polls are pairwise distinct.  Here the clause is proved again on the reduced registration model
(`Model/BrokerReg.lean`) **without** that assumption: whatever ids the polls use — the same id polling again
while its earlier poll is still queued, or still matched with a client.
-/
namespace Snowflake.BrokerReg.C04

open Snowflake.BrokerReg

def pollOf : Ev → Nat
  | .add p | .timeout p | .pop p | .cleanup p => p

theorem liveCount_zero {f : Nat → Phase} (n : Nat) (h : ∀ p, p < n → live (f p) = false) : liveCount f n = 0 := by
  rw [liveCount_eq, List.length_eq_zero_iff, List.filter_eq_nil_iff]
  exact fun p hp => by simp [h p (List.mem_range.mp hp)]

theorem inv_init (sid : Nat → Nat) (N : Nat) : Inv sid init N := by
  refine ⟨fun _ _ => rfl, ?_, ?_, ?_⟩
  · rw [liveCount_zero (f := init.phase) N fun _ _ => rfl]; rfl
  · intro t p h; simp [init] at h
  · intro t p h; simp [init] at h

section
variable {sid : Nat → Nat} {s s' : St} {N p t : Nat} {x : Phase} {v : Option Nat} {g : Int}

theorem setPhase_self {f : Nat → Phase} : setPhase f p x p = x := if_pos rfl

theorem setPhase_other {f : Nat → Phase} {q : Nat} (h : q ≠ p) : setPhase f p x q = f q := if_neg h

theorem inv_setPhase (hi : Inv sid s N) (hp : p < N) (hx : live x = true ∨ ∀ t, s.map t ≠ some p)
    (hg : g = s.gauge - (if live (s.phase p) then 1 else 0) + (if live x then 1 else 0)) :
    Inv sid ⟨setPhase s.phase p x, s.map, g⟩ N := by
  refine ⟨fun q hq => ?_, ?_, fun t q h => ?_, hi.map_sid⟩
  · exact (setPhase_other (by omega)).trans (hi.fresh_above q hq)
  · rw [hg, hi.gauge_eq]; exact (liveCount_set s.phase p x N hp).symm
  · show live (setPhase s.phase p x q) = true
    by_cases e : q = p
    · rw [e, setPhase_self]; exact hx.resolve_right fun hn => hn t (e ▸ h)
    · rw [setPhase_other e]; exact hi.map_live t q h

theorem inv_setMap (hi : Inv sid s N) (hv : ∀ q, v = some q → live (s.phase q) = true ∧ sid q = t) :
    Inv sid ⟨s.phase, setMap s.map t v, s.gauge⟩ N := by
  have key : ∀ u q, setMap s.map t v u = some q → live (s.phase q) = true ∧ sid q = u := by
    intro u q h
    unfold setMap at h
    split at h
    · next e => exact e ▸ hv q h
    · exact ⟨hi.map_live u q h, hi.map_sid u q h⟩
  exact ⟨hi.fresh_above, hi.gauge_eq, fun u q h => (key u q h).1, fun u q h => (key u q h).2⟩

/-- After `delete(idToSnowflake, sid p)`: the map named `p` only under `sid p`. -/
theorem setMap_delete_ne (hi : Inv sid s N) (p t : Nat) : setMap s.map (sid p) none t ≠ some p := by
  unfold setMap
  split
  · nofun
  · next ht => exact fun h => ht (hi.map_sid t p h).symm

theorem inv_step {sid : Nat → Nat} {s s' : St} {N : Nat} (hi : Inv sid s N) (e : Ev) (he : pollOf e < N)
    (hs : step sid s e = some s') : Inv sid s' N := by
  cases e with
  | add p =>                   -- becomes live, then is entered under its id
    obtain ⟨hph, rfl⟩ := Option.ite_some_none_eq_some.mp hs
    exact inv_setMap (inv_setPhase (p := p) hi he (.inl rfl) (by simp [hph, live]))
      fun q e => Option.some.inj e ▸ ⟨congrArg live setPhase_self, rfl⟩
  | pop p =>                   -- stays live
    obtain ⟨hph, rfl⟩ := Option.ite_some_none_eq_some.mp hs
    exact inv_setPhase (p := p) hi he (.inl rfl) (by simp [hph, live])
  | timeout p | cleanup p =>   -- leaves the map, then stops being live
    obtain ⟨hph, rfl⟩ := Option.ite_some_none_eq_some.mp hs
    exact inv_setPhase (p := p) (inv_setMap (v := none) hi fun _ => nofun) he (.inr (setMap_delete_ne hi p))
      (by simp [hph, live])

end

theorem run_eq_runL (sid : Nat → Nat) (s : St) (evs : List Ev) : run sid s evs = TotalMap.runL (step sid) s evs := by
  fun_induction run sid s evs <;> simp_all [TotalMap.runL]

theorem inv_run {sid : Nat → Nat} {N : Nat} (evs : List Ev) (s s' : St) (hi : Inv sid s N)
    (hb : ∀ e ∈ evs, pollOf e < N) (h : run sid s evs = some s') : Inv sid s' N :=
  TotalMap.runL_inv (Inv sid · N) (pollOf · < N) (fun _ e _ hi he hs => inv_step hi e he hs) evs hi hb
    (run_eq_runL .. ▸ h)

/-- **The gauge counts registrations**, whatever session ids the polls use. -/
theorem gauge_counts_registrations (sid : Nat → Nat) (N : Nat) (evs : List Ev) (s : St)
    (hb : ∀ e ∈ evs, pollOf e < N) (h : run sid init evs = some s) :
    s.gauge = (liveCount s.phase N : Int) :=
  (inv_run evs init s (inv_init sid N) hb h).gauge_eq

theorem gauge_nonneg (sid : Nat → Nat) (N : Nat) (evs : List Ev) (s : St)
    (hb : ∀ e ∈ evs, pollOf e < N) (h : run sid init evs = some s) : 0 ≤ s.gauge := by
  rw [gauge_counts_registrations sid N evs s hb h]; exact Int.natCast_nonneg _

/-- the id map only names polls that hold a registration, under their own id -/
theorem map_names_registered (sid : Nat → Nat) (N : Nat) (evs : List Ev) (s : St)
    (hb : ∀ e ∈ evs, pollOf e < N) (h : run sid init evs = some s) (t p : Nat) (hm : s.map t = some p) :
    live (s.phase p) = true ∧ sid p = t :=
  have hi := inv_run evs init s (inv_init sid N) hb h
  ⟨hi.map_live t p hm, hi.map_sid t p hm⟩

/-- **No ghost proxies, for arbitrary session ids.**  Once every poll has completed (none is queued or held by a
running client request) the gauge is zero and the id map is empty. -/
theorem quiescent_clean_any_sids (sid : Nat → Nat) (N : Nat) (evs : List Ev) (s : St)
    (hb : ∀ e ∈ evs, pollOf e < N) (h : run sid init evs = some s)
    (hq : ∀ p, p < N → live (s.phase p) = false) :
    s.gauge = 0 ∧ ∀ t, s.map t = none := by
  have hi := inv_run evs init s (inv_init sid N) hb h
  refine ⟨by rw [hi.gauge_eq, liveCount_zero N hq]; rfl, ?_⟩
  intro t
  cases hm : s.map t with
  | none => rfl
  | some p =>
    exfalso
    have hl := hi.map_live t p hm
    rcases Nat.lt_or_ge p N with hp | hp
    · rw [hq p hp] at hl; cases hl
    · rw [hi.fresh_above p hp] at hl; simp [live] at hl

/-! ## Non-vacuity: one session id polling twice -/

/-- the same id polls twice, unmatched; both time out -/
example : (run (fun _ => 7) init [.add 0, .add 1, .timeout 0, .timeout 1]).map (fun s => (s.gauge, s.map 7)) = some (0, none) := by
  decide +kernel

/-- a matched proxy polls again under its id while the client still waits; the client's request ends, then the
second poll times out -/
example : (run (fun _ => 7) init [.add 0, .pop 0, .add 1, .cleanup 0, .timeout 1]).map (fun s => (s.gauge, s.map 7)) = some (0, none) := by
  decide +kernel

/-- in between, the second poll is registered although the id map no longer names it: the gauge still counts it -/
example : (run (fun _ => 7) init [.add 0, .pop 0, .add 1, .cleanup 0]).map (fun s => (s.gauge, s.map 7)) = some (1, none) := by
  decide +kernel

end Snowflake.BrokerReg.C04
