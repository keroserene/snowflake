import Snowflake.Model.Util
import Snowflake.Proofs.IP
/-!
# C08 — local addresses are stripped from SDP, nothing else is lost

Theorems about `Model/Util.lean`.  Tied to the source in `Tie/Util.lean` (the translated `util.IsLocal` equals
`isLocal`; statement listing of the filter loop) and, for what `Negotiate` / `sendAnswer` send, in
`Tie/StripAppliedClient.lean` / `Tie/StripAppliedProxy.lean`; differential runs of the real functions.

`partial` by design (DESIGN §5.8): pion's SDP parser / marshaller and `ice.UnmarshalCandidate` are not
modelled — they enter through `view`; "no input makes `StripLocalAddresses` panic" is therefore not a
theorem (harness evidence only).
-/
namespace Snowflake.Util.C08
open Snowflake.GoStr Snowflake.IP

def v4val (a b c d : UInt8) : Nat := a.toNat * 16777216 + b.toNat * 65536 + c.toNat * 256 + d.toNat

/-- 10/8 ∪ 172.16/12 ∪ 192.168/16 ∪ 100.64/10 ∪ 169.254/16 as intervals of 32-bit values -/
def local4 (x : Nat) : Prop :=
  (0x0A000000 ≤ x ∧ x ≤ 0x0AFFFFFF) ∨ (0xAC100000 ≤ x ∧ x ≤ 0xAC1FFFFF) ∨ (0xC0A80000 ≤ x ∧ x ≤ 0xC0A8FFFF)
    ∨ (0x64400000 ≤ x ∧ x ≤ 0x647FFFFF) ∨ (0xA9FE0000 ≤ x ∧ x ≤ 0xA9FEFFFF)

/-- An interval that fixes the first octet and bounds the second is a test on those two octets. -/
theorem v4val_range (a b c d : UInt8) {A lo hi : Nat} (h : hi < 256) :
    (A * 0x1000000 + lo * 0x10000 ≤ v4val a b c d ∧ v4val a b c d ≤ A * 0x1000000 + hi * 0x10000 + 0xFFFF)
      ↔ a.toNat = A ∧ lo ≤ b.toNat ∧ b.toNat ≤ hi := by
  have hb := b.toNat_lt
  have hc := c.toNat_lt
  have hd := d.toNat_lt
  unfold v4val
  omega

theorem local4_iff (a b c d : UInt8) :
    local4 (v4val a b c d) ↔
      (a.toNat = 10 ∨ (a.toNat = 172 ∧ 16 ≤ b.toNat ∧ b.toNat ≤ 31) ∨ (a.toNat = 192 ∧ b.toNat = 168)
        ∨ (a.toNat = 100 ∧ 64 ≤ b.toNat ∧ b.toNat ≤ 127) ∨ (a.toNat = 169 ∧ b.toNat = 254)) := by
  have hb := b.toNat_lt
  have h1 := v4val_range a b c d (A := 10) (lo := 0) (hi := 255) (by omega)
  have h2 := v4val_range a b c d (A := 172) (lo := 16) (hi := 31) (by omega)
  have h3 := v4val_range a b c d (A := 192) (lo := 168) (hi := 168) (by omega)
  have h4 := v4val_range a b c d (A := 100) (lo := 64) (hi := 127) (by omega)
  have h5 := v4val_range a b c d (A := 169) (lo := 254) (hi := 254) (by omega)
  exact or_congr (h1.trans (by omega)) (or_congr h2 (or_congr (h3.trans (by omega)) (or_congr h4 (h5.trans (by omega)))))

/-- **IPv4, either form** (`To4` succeeds): `IsLocal` holds exactly on the five ranges. -/
theorem isLocal_of_to4 {ip : List UInt8} {a b c d : UInt8} (h : to4 ip = some [a, b, c, d]) :
    isLocal ip = true ↔ local4 (v4val a b c d) := by
  simp only [local4_iff, isLocal, h, idx, List.getD_cons_zero, List.getD_cons_succ, Bool.or_eq_true,
    Bool.and_eq_true, beq_iff_eq, decide_eq_true_eq, or_assoc]

/-- **4-byte `net.IP`**: local exactly on the five ranges. -/
theorem isLocal_spec_v4 (a b c d : UInt8) : isLocal [a, b, c, d] = true ↔ local4 (v4val a b c d) :=
  isLocal_of_to4 rfl

/-- **IPv4-mapped (16-byte form `::ffff:a.b.c.d`)**: same ranges. -/
theorem isLocal_spec_mapped (a b c d : UInt8) :
    isLocal (v4InV6Prefix ++ [a, b, c, d]) = true ↔ local4 (v4val a b c d) :=
  isLocal_of_to4 rfl

/-- **IPv6 (16 bytes, not IPv4-mapped)**: exactly `fc00::/7`, i.e. first byte `fc` or `fd`. -/
theorem isLocal_spec_v6 (ip : List UInt8) (h16 : ip.length = 16) (hn : to4 ip = none) :
    isLocal ip = true ↔ (0xfc ≤ (idx ip 0).toNat ∧ (idx ip 0).toNat ≤ 0xfd) := by
  simp [isLocal, hn, h16]

theorem isLocal_other_len (ip : List UInt8) (h4 : ip.length ≠ 4) (h16 : ip.length ≠ 16) : isLocal ip = false := by
  have : to4 ip = none := by simp [to4, h4, h16]
  simp [isLocal, this, h16]

/-- **`IsLocal`, all forms at once**: IPv4 (either form) in the five ranges, or 16 non-mapped bytes in
`fc00::/7`; no other slice is local. -/
theorem isLocal_spec (ip : List UInt8) :
    isLocal ip = true ↔
      (∃ a b c d, (ip = [a, b, c, d] ∨ ip = v4InV6Prefix ++ [a, b, c, d]) ∧ local4 (v4val a b c d))
      ∨ (ip.length = 16 ∧ to4 ip = none ∧ 0xfc ≤ (idx ip 0).toNat ∧ (idx ip 0).toNat ≤ 0xfd) := by
  -- the first disjunct says `to4 ip = some [a, b, c, d]` (`to4_eq_some`), so the two sides split on `to4 ip` alike
  have hq : ∀ {a b c d}, (ip = [a, b, c, d] ∨ ip = v4InV6Prefix ++ [a, b, c, d]) ↔ to4 ip = some [a, b, c, d] :=
    ⟨fun h => to4_eq_some.mpr ⟨rfl, h⟩, fun h => (to4_eq_some.mp h).2⟩
  simp only [hq]
  cases h : to4 ip with
  | none => simp [isLocal, h]
  | some q =>
    obtain ⟨a, b, c, d, rfl⟩ := eq_quad_of_length (to4_eq_some.mp h).1
    rw [isLocal_of_to4 h]
    constructor
    · intro hl; exact Or.inl ⟨a, b, c, d, rfl, hl⟩
    · rintro (⟨a', b', c', d', he, hl⟩ | ⟨_, he, _⟩)
      · cases he; exact hl
      · cases he

/-- `IsLoopback` on a 16-byte address (what `net.ParseIP` returns): `::ffff:127.x.y.z` or `::1`. -/
theorem isLoopback_spec (ip : List UInt8) (h16 : ip.length = 16) :
    isLoopback ip = true ↔ (∃ b c d, ip = v4InV6Prefix ++ [127, b, c, d]) ∨ ip = ipv6loopback := by
  cases h : to4 ip with
  | none =>
    have hne : ∀ b c d, ip ≠ v4InV6Prefix ++ [127, b, c, d] := fun b c d he => by
      rw [he, to4_mapped rfl] at h; cases h
    have hl : ipv6loopback.length = 16 := rfl
    simp [isLoopback, h, equal, h16, hl, hne]
  | some q =>
    obtain ⟨hq, rfl | rfl⟩ := to4_eq_some.mp h
    · omega
    · obtain ⟨a, b, c, d, rfl⟩ := eq_quad_of_length hq
      simp only [isLoopback, h, idx]
      simp [v4InV6Prefix, ipv6loopback]

/-- **Specification predicate**: the attribute is an ICE candidate that pion parses, of type host, whose
address text parses to an IP that is local, unspecified or loopback. -/
def Bad (i : CandInfo) : Prop :=
  i.isCandidate = true ∧ i.parsesOK = true ∧ i.isHost = true ∧
    ∃ ip, parseIP i.addr = some ip ∧ (isLocal ip = true ∨ isUnspecified ip = true ∨ isLoopback ip = true)

/-- the same as a Boolean test (for `List.filter`) -/
def bad (i : CandInfo) : Bool :=
  i.isCandidate && i.parsesOK && i.isHost &&
    match parseIP i.addr with
    | some ip => isLocal ip || isUnspecified ip || isLoopback ip
    | none => false

theorem bad_iff (i : CandInfo) : bad i = true ↔ Bad i := by
  unfold bad Bad
  cases hp : parseIP i.addr with
  | none => simp
  | some ip => simp [and_assoc, or_assoc]

theorem not_Bad_spec {i : CandInfo} (h : ¬ Bad i) (hc : i.isCandidate = true) (hp : i.parsesOK = true)
    (hh : i.isHost = true) {ip : List UInt8} (hip : parseIP i.addr = some ip) :
    isLocal ip = false ∧ isUnspecified ip = false ∧ isLoopback ip = false := by
  simpa [Bad, hc, hp, hh, hip] using h

section filter
variable {α : Type} (view : α → CandInfo)

/-- one pass of the loop: its nested guards are the single test `bad` -/
theorem stripLoop_cons (acc : List α) (a : α) (rest : List α) :
    stripLoop view acc (a :: rest) = stripLoop view (if bad (view a) then acc else acc ++ [a]) rest := by
  rw [stripLoop, bad]
  cases (view a).isCandidate <;> cases (view a).parsesOK <;> cases (view a).isHost <;>
    cases parseIP (view a).addr <;> simp [apply_ite (stripLoop view · rest)]

/-- the loop is a filter by the specification predicate -/
theorem stripLoop_eq (acc attrs : List α) :
    stripLoop view acc attrs = acc ++ attrs.filter (fun a => !bad (view a)) := by
  induction attrs generalizing acc with
  | nil => simp [stripLoop]
  | cons a rest ih =>
    rw [stripLoop_cons, ih, List.filter_cons]
    cases bad (view a) <;> simp

/-- The result is the original list minus exactly the `Bad` attributes: same order, same multiplicities. -/
theorem strip_removes_only (attrs : List α) : strip view attrs = attrs.filter (fun a => !bad (view a)) := by
  simp [strip, stripLoop_eq]

theorem mem_strip {attrs : List α} {a : α} : a ∈ strip view attrs ↔ a ∈ attrs ∧ ¬ Bad (view a) := by
  simp [strip_removes_only, ← bad_iff]

/-- No attribute of the result is a host candidate whose address parses to a local, loopback or unspecified IP. -/
theorem strip_removes_all (attrs : List α) : ∀ a ∈ strip view attrs, ¬ Bad (view a) :=
  fun _ ha => ((mem_strip view).mp ha).2

theorem strip_keeps_others (attrs : List α) : ∀ a ∈ attrs, ¬ Bad (view a) → a ∈ strip view attrs :=
  fun _ ha hb => (mem_strip view).mpr ⟨ha, hb⟩

theorem strip_sublist (attrs : List α) : (strip view attrs).Sublist attrs := by
  rw [strip_removes_only]; exact List.filter_sublist

theorem strip_idempotent (attrs : List α) : strip view (strip view attrs) = strip view attrs := by
  simp [strip_removes_only, List.filter_filter]

/-- Stripping carries no state from one attribute (or media section) to the next. -/
theorem strip_append (a b : List α) : strip view (a ++ b) = strip view a ++ strip view b := by
  simp [strip_removes_only]

/-- **Nothing else is lost, exactly**: the list comes back unchanged iff it held no `Bad` attribute. -/
theorem strip_unchanged_iff (attrs : List α) : strip view attrs = attrs ↔ ∀ a ∈ attrs, ¬ Bad (view a) := by
  simp [strip_removes_only, List.filter_eq_self, ← bad_iff]

/-- Accounting, multiplicities included. -/
theorem strip_count (attrs : List α) :
    (strip view attrs).length + (attrs.filter (fun a => bad (view a))).length = attrs.length := by
  rw [strip_removes_only, List.length_eq_countP_add_countP (fun a => bad (view a)) (l := attrs),
    List.countP_eq_length_filter, List.countP_eq_length_filter, Nat.add_comm]
  simp

/-- In terms of the ranges (`isLocal_spec`). -/
theorem strip_survivor_not_local (attrs : List α) (a : α) (ha : a ∈ strip view attrs)
    (hc : (view a).isCandidate = true) (hp : (view a).parsesOK = true) (hh : (view a).isHost = true)
    (ip : List UInt8) (hip : parseIP (view a).addr = some ip) :
    isLocal ip = false ∧ isUnspecified ip = false ∧ isLoopback ip = false :=
  not_Bad_spec (strip_removes_all view attrs a ha) hc hp hh hip

variable {μ σ : Type}

/-- Everything but the media attributes is untouched. -/
theorem stripSdp_untouched (d : Sdp α μ σ) :
    (stripSdp view d).session = d.session
    ∧ (stripSdp view d).media.length = d.media.length
    ∧ (stripSdp view d).media.map (·.other) = d.media.map (·.other) := by
  simp [stripSdp, List.map_map, Function.comp_def]

theorem stripSdp_attrs (d : Sdp α μ σ) :
    (stripSdp view d).media.map (·.attrs) = d.media.map (fun m => m.attrs.filter (fun a => !bad (view a))) := by
  simp [stripSdp, List.map_map, Function.comp_def, strip_removes_only]

theorem stripSdp_removes_all (d : Sdp α μ σ) :
    ∀ m ∈ (stripSdp view d).media, ∀ a ∈ m.attrs, ¬ Bad (view a) := by
  intro m hm a ha
  simp only [stripSdp, List.mem_map] at hm
  obtain ⟨m0, _, rfl⟩ := hm
  exact strip_removes_all view m0.attrs a ha

theorem stripSdp_idempotent (d : Sdp α μ σ) : stripSdp view (stripSdp view d) = stripSdp view d := by
  simp [stripSdp, List.map_map, Function.comp_def, strip_idempotent]

/-! ### what leaves the process: `leaves`, tied to `Negotiate` / `sendAnswer` in `Tie/StripApplied*.lean` -/

variable {τ : Type}

/-- `leaves` is the two-way choice and nothing else. -/
theorem leaves_eq (keep : Bool) (d : Desc τ α μ σ) :
    leaves view keep d = if keep then d else ⟨d.type, stripSdp view d.sdp⟩ := by
  cases keep <;> rfl

theorem leaves_kept (d : Desc τ α μ σ) : leaves view true d = d := rfl

/-- **Unless local addresses are explicitly kept, no local host candidate leaves the process**: no
media-level attribute of the sent description is an ICE candidate that parses, is of type host and has
an address that parses to a local (RFC 1918 / 6598 / 3927 / 4193), unspecified or loopback IP. -/
theorem leaves_no_local (d : Desc τ α μ σ) :
    ∀ m ∈ (leaves view false d).sdp.media, ∀ a ∈ m.attrs, ¬ Bad (view a) :=
  stripSdp_removes_all view d.sdp

/-- The same in terms of the ranges (`isLocal_spec`). -/
theorem leaves_survivor_not_local (d : Desc τ α μ σ) (m : Media α μ) (hm : m ∈ (leaves view false d).sdp.media)
    (a : α) (ha : a ∈ m.attrs)
    (hc : (view a).isCandidate = true) (hp : (view a).parsesOK = true) (hh : (view a).isHost = true)
    (ip : List UInt8) (hip : parseIP (view a).addr = some ip) :
    isLocal ip = false ∧ isUnspecified ip = false ∧ isLoopback ip = false :=
  not_Bad_spec (leaves_no_local view d m hm a ha) hc hp hh hip

/-- **Everything else is preserved, in order**, with either value of the flag. -/
theorem leaves_preserves (keep : Bool) (d : Desc τ α μ σ) :
    (leaves view keep d).type = d.type
    ∧ (leaves view keep d).sdp.session = d.sdp.session
    ∧ (leaves view keep d).sdp.media.length = d.sdp.media.length
    ∧ (leaves view keep d).sdp.media.map (·.other) = d.sdp.media.map (·.other)
    ∧ (leaves view keep d).sdp.media.map (·.attrs)
        = d.sdp.media.map (fun m => if keep then m.attrs else m.attrs.filter (fun a => !bad (view a))) := by
  cases keep
  · have h := stripSdp_untouched view d.sdp
    exact ⟨rfl, h.1, h.2.1, h.2.2, by simpa [leaves] using stripSdp_attrs view d.sdp⟩
  · simp [leaves]

/-- **No fall-back**: a description all of whose candidates are local host candidates leaves with no
candidate at all. -/
theorem leaves_all_local (d : Desc τ α μ σ) (h : ∀ m ∈ d.sdp.media, ∀ a ∈ m.attrs, Bad (view a)) :
    ∀ m ∈ (leaves view false d).sdp.media, m.attrs = [] := by
  intro m hm
  simp only [leaves, Bool.not_false, if_true, stripSdp, List.mem_map] at hm
  obtain ⟨m0, hm0, rfl⟩ := hm
  -- a survivor would be one of the original attributes, hence `Bad`, and not `Bad`
  exact List.eq_nil_iff_forall_not_mem.mpr fun a ha =>
    have ⟨ha0, hnb⟩ := (mem_strip view).mp ha
    hnb (h m0 hm0 a ha0)

/-- **`sent_description_spec`** — the clause of C08 about the description a client or proxy sends to
the broker, for both values of the flag. -/
theorem sent_description_spec (keep : Bool) (d : Desc τ α μ σ) :
    (keep = true → leaves view keep d = d)
    ∧ (keep = false → ∀ m ∈ (leaves view keep d).sdp.media, ∀ a ∈ m.attrs, ¬ Bad (view a))
    ∧ (leaves view keep d).type = d.type
    ∧ (leaves view keep d).sdp.session = d.sdp.session
    ∧ (leaves view keep d).sdp.media.map (·.other) = d.sdp.media.map (·.other)
    ∧ (leaves view keep d).sdp.media.map (·.attrs)
        = d.sdp.media.map (fun m => if keep then m.attrs else m.attrs.filter (fun a => !bad (view a))) := by
  have hp := leaves_preserves view keep d
  refine ⟨?_, ?_, hp.1, hp.2.1, hp.2.2.2.1, hp.2.2.2.2⟩
  · rintro rfl; rfl
  · rintro rfl; exact leaves_no_local view d

end filter

/-! ## Non-vacuity -/

private def mk (host : Bool) (addr : String) : CandInfo := ⟨true, true, host, ofString addr⟩

/-- the repository's own test vector (eight local addresses of all kinds) plus boundary neighbours,
other candidate types, an unparseable candidate and a non-candidate attribute -/
example :
    strip id [mk true "8.8.8.8", mk true "192.168.0.100", mk true "100.127.50.5", mk true "169.254.250.88",
        mk true "fdf8:f53b:82e4::53", mk true "0.0.0.0", mk true "::", mk true "127.0.0.1", mk true "::1",
        mk true "172.15.255.255", mk true "172.16.0.0", mk true "172.31.255.255", mk true "172.32.0.0",
        mk true "100.63.255.255", mk true "100.128.0.0", mk true "fbff::1", mk true "fe00::1",
        mk true "::ffff:10.1.2.3", mk false "10.0.0.1", ⟨true, false, false, []⟩, ⟨false, false, false, []⟩,
        mk true "abc.local"]
      = [mk true "8.8.8.8", mk true "172.15.255.255", mk true "172.32.0.0", mk true "100.63.255.255",
        mk true "100.128.0.0", mk true "fbff::1", mk true "fe00::1", mk false "10.0.0.1",
        ⟨true, false, false, []⟩, ⟨false, false, false, []⟩, mk true "abc.local"] := by
  decide +kernel

/-- an all-local answer: stripped to nothing unless kept; a server-reflexive candidate with a private address
is not a host candidate and leaves -/
example :
    (leaves id false (⟨"answer", (), [⟨(), [mk true "10.1.2.3", mk true "fd00::2", mk true "127.0.0.1"]⟩]⟩ : Desc String CandInfo Unit Unit)).sdp.media.map (·.attrs)
      = [[]]
    ∧ (leaves id true (⟨"answer", (), [⟨(), [mk true "10.1.2.3", mk true "fd00::2", mk true "127.0.0.1"]⟩]⟩ : Desc String CandInfo Unit Unit)).sdp.media.map (·.attrs)
      = [[mk true "10.1.2.3", mk true "fd00::2", mk true "127.0.0.1"]]
    ∧ (leaves id false (⟨"offer", (), [⟨(), [mk true "192.168.1.7", mk false "192.168.1.7", mk true "192.0.2.2"]⟩]⟩ : Desc String CandInfo Unit Unit)).sdp.media.map (·.attrs)
      = [[mk false "192.168.1.7", mk true "192.0.2.2"]] := by
  decide +kernel

example : ∀ m ∈ [(⟨(), [mk true "10.1.2.3", mk true "::1"]⟩ : Media CandInfo Unit)], ∀ a ∈ m.attrs, Bad (id a) := by
  intro m hm a ha
  rw [← bad_iff]
  simp only [List.mem_singleton] at hm
  subst hm
  simp only [List.mem_cons, List.mem_nil_iff, or_false] at ha
  rcases ha with rfl | rfl <;> decide +kernel

example : isLocal [172, 31, 255, 255] = true ∧ isLocal [172, 32, 0, 0] = false ∧ isLocal [100, 63, 255, 255] = false
    ∧ isLocal [100, 64, 0, 0] = true ∧ isLocal [0xfb, 0xff, 0, 0, 0, 0, 0, 0, 0, 0, 0, 0, 0, 0, 0, 1] = false
    ∧ isLocal [0xfd, 0, 0, 0, 0, 0, 0, 0, 0, 0, 0, 0, 0, 0, 0, 1] = true := by decide +kernel

end Snowflake.Util.C08
