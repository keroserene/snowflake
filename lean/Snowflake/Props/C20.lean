/-
C20 — no data races.  `Generated/Accesses.lean` lists, for every field of the tracked struct types (and a
few declared expressions: heap slice, map entries, package-level variables), every access site with the
locks that must be held there.  The table is *disciplined*: per variable, outside the constructor phase,
nothing writes it, or every access is atomic, or one common lock is held at every access (shared mode for
reads only).  With the lockset theorems of `Base/Hb.lean`, a trace that conforms to a disciplined table has
no unordered conflicting accesses.

What is *not* in the theorem (trusted, cross-checked by the race-detector workloads of the harness):
that the table is complete (the variable list is declared in extract/specs_accesses.go; aliasing is by
field name) and that executions conform to it (the must-hold analysis of extract/accesses.go); the
constructor phase happens before publication; synchronisation other than locks and atomics
(channels, sync.Once, WaitGroup, goroutine creation) is not modelled — variables that rely on it are
not in the table and are covered by the dynamic side only.
-/
import Snowflake.Base.Hb
import Snowflake.Generated.Accesses

namespace Snowflake.C20
open Snowflake.Hb
open Snowflake.Gen.Accesses

/-- Constructor-phase rows are left out: they run before the object is published (trusted, see above). -/
def rowsOf (tbl : List Acc) (v : String) : List Acc := tbl.filter (fun r => r.v == v && !r.ctor)

/-- held exclusively, or shared if the row is a read -/
def guardedBy (l : String) (r : Acc) : Bool := r.locks.contains l || (!r.write && r.rlocks.contains l)

/-- Nothing writes `v`, or every access is atomic, or one lock guards every access.  The candidate locks come
from `locks` only, never `rlocks`: a writer must hold the lock exclusively. -/
def varOk (tbl : List Acc) (v : String) : Bool :=
  let rs := rowsOf tbl v
  rs.all (fun r => !r.write) || rs.all (fun r => r.atomic) ||
    (rs.flatMap (fun r => r.locks)).any (fun l => rs.all (guardedBy l))

def disciplined (tbl : List Acc) (vars : List String) : Bool := vars.all (varOk tbl)

/-- Nothing is silently dropped from the check: a row belongs to a variable or to an exemption with a reason. -/
def covered (tbl : List Acc) (vars : List String) (exempt : List (String × String)) : Bool :=
  tbl.all (fun r => vars.contains r.v || exempt.any (fun e => e.1 == r.v))

/-- A declared pattern that no longer matches anything in the source would be vacuously disciplined. -/
def populated (tbl : List Acc) (vars : List String) : Bool := vars.all (fun v => tbl.any (fun r => r.v == v))

def opVar : Op → Option String
  | .rd v | .wr v | .ard v | .awr v => some v
  | _ => none

def isWrite : Op → Bool
  | .wr _ | .awr _ => true
  | _ => false

def isAtomic : Op → Bool
  | .ard _ | .awr _ => true
  | _ => false

theorem isAccess_of_opVar {o : Op} {v : String} (h : opVar o = some v) : isAccess o = true := by
  cases o <;> simp [opVar] at h <;> rfl

/-- What the must-hold analysis of `extract/accesses.go` is trusted for: every access of the trace (which starts
after the constructor phase) is a non-constructor row of the table, performed with at least the row's locks. -/
def Conforms (tbl : List Acc) (τ : Trace) : Prop :=
  ∀ i t o v, τ[i]? = some ⟨t, o⟩ → opVar o = some v →
    ∃ r, r ∈ tbl ∧ r.v = v ∧ r.ctor = false ∧ r.write = isWrite o ∧ r.atomic = isAtomic o ∧
      (∀ l, l ∈ r.locks → Holds τ t l i) ∧ (∀ l, l ∈ r.rlocks → HoldsR τ t l i)

/-- happens-before through a lock -/
def OrderedBySync (τ : Trace) (i j ti tj : Nat) : Prop :=
  ∃ l r a, i < r ∧ r < a ∧ a < j ∧
    (τ[r]? = some ⟨ti, .rel l⟩ ∨ τ[r]? = some ⟨ti, .rrel l⟩) ∧
    (τ[a]? = some ⟨tj, .acq l⟩ ∨ τ[a]? = some ⟨tj, .racq l⟩)

theorem mem_rowsOf {tbl : List Acc} {v : String} {r : Acc} (hm : r ∈ tbl) (hv : r.v = v) (hc : r.ctor = false) :
    r ∈ rowsOf tbl v := by
  simp [rowsOf, hm, hv, hc]

theorem guarded_holds {τ : Trace} {t i : Nat} {l : String} {r : Acc}
    (hg : guardedBy l r = true)
    (hl : ∀ l, l ∈ r.locks → Holds τ t l i) (hr : ∀ l, l ∈ r.rlocks → HoldsR τ t l i) :
    Holds τ t l i ∨ (r.write = false ∧ HoldsR τ t l i) := by
  simp only [guardedBy, Bool.or_eq_true, Bool.and_eq_true, Bool.not_eq_true', List.contains_iff_mem] at hg
  rcases hg with h | ⟨hw, h⟩
  · exact Or.inl (hl l h)
  · exact Or.inr ⟨hw, hr l h⟩

theorem no_unordered_conflict {tbl : List Acc} {v : String} (hok : varOk tbl v = true)
    {τ : Trace} (wf : WF τ) (conf : Conforms tbl τ)
    {i j ti tj : Nat} {oi oj : Op} (hij : i < j)
    (hi : τ[i]? = some ⟨ti, oi⟩) (hj : τ[j]? = some ⟨tj, oj⟩)
    (hvi : opVar oi = some v) (hvj : opVar oj = some v) (hne : ti ≠ tj)
    (hconf : isWrite oi = true ∨ isWrite oj = true) :
    (isAtomic oi = true ∧ isAtomic oj = true) ∨ OrderedBySync τ i j ti tj := by
  obtain ⟨ri, hmi, hrvi, hci, hwi, hati, hli, hri⟩ := conf i ti oi v hi hvi
  obtain ⟨rj, hmj, hrvj, hcj, hwj, hatj, hlj, hrj⟩ := conf j tj oj v hj hvj
  have hmi' := mem_rowsOf hmi hrvi hci
  have hmj' := mem_rowsOf hmj hrvj hcj
  have hai := isAccess_of_opVar hvi
  -- two reads do not conflict
  have hreads : ri.write = false → rj.write = false → False := fun h1 h2 => by
    rw [← hwi, ← hwj, h1, h2] at hconf
    simp at hconf
  simp only [varOk, Bool.or_eq_true, List.all_eq_true, List.any_eq_true, Bool.not_eq_true'] at hok
  rcases hok with (hnow | hat) | ⟨l, _, hg⟩
  · -- nobody writes
    exact (hreads (hnow ri hmi') (hnow rj hmj')).elim
  · -- all atomic
    left
    exact ⟨hati ▸ hat ri hmi', hatj ▸ hat rj hmj'⟩
  · -- a common lock
    right
    rcases guarded_holds (hg ri hmi') hli hri with hi' | ⟨hwi', hi'⟩
    · rcases guarded_holds (hg rj hmj') hlj hrj with hj' | ⟨_, hj'⟩
      · obtain ⟨r, a, h1, h2, h3, h4, h5⟩ := lockset_ordered wf hij hi hj hai hne hi' hj'
        exact ⟨l, r, a, h1, h2, h3, Or.inl h4, Or.inl h5⟩
      · obtain ⟨r, a, h1, h2, h3, h4, h5⟩ := lockset_ordered_wr wf hij hi hj hai hi' hj'
        exact ⟨l, r, a, h1, h2, h3, Or.inl h4, Or.inr h5⟩
    · rcases guarded_holds (hg rj hmj') hlj hrj with hj' | ⟨hwj', _⟩
      · obtain ⟨r, a, h1, h2, h3, h4, h5⟩ := lockset_ordered_rw wf hij hi hj hai hi' hj'
        exact ⟨l, r, a, h1, h2, h3, Or.inr h4, Or.inl h5⟩
      · exact (hreads hwi' hwj').elim

/-! Comparing two strings is slow in the kernel, and `disciplined`, `covered` and `populated` compare every
variable with every row.  `tableOk` decides their conjunction with every name replaced by a numeral, computed once
for each distinct name, so that a comparison is one kernel step, and with one pass over the table per variable:
the rows `rs` of that name serve `populated` (there are some) and `disciplined`. -/

/-- bijective base-256 numeral -/
def bytesCode : List UInt8 → Nat
  | [] => 0
  | b :: l => bytesCode l * 256 + b.toNat + 1

theorem bytesCode_inj : ∀ {l₁ l₂ : List UInt8}, bytesCode l₁ = bytesCode l₂ → l₁ = l₂
  | [], [], _ => rfl
  | [], _ :: _, h | _ :: _, [], h => by simp only [bytesCode] at h; omega
  | c :: l₁, d :: l₂, h => by
    have hc := c.toNat_lt
    have hd := d.toNat_lt
    simp only [bytesCode] at h
    rw [bytesCode_inj (l₁ := l₁) (l₂ := l₂) (by omega), UInt8.toNat.inj (a := c) (b := d) (by omega)]

def codeEq (a b : String) : Bool := (bytesCode a.toByteArray.data.toList).beq (bytesCode b.toByteArray.data.toList)

theorem codeEq_eq_beq (a b : String) : codeEq a b = (a == b) := by
  rw [Bool.eq_iff_iff, beq_iff_eq]
  refine ⟨fun h => ?_, fun h => h ▸ Nat.beq_refl _⟩
  exact String.toByteArray_inj.1 (ByteArray.ext (Array.toList_inj.1 (bytesCode_inj (Nat.eq_of_beq_eq_true h))))

/-- `varOk tbl v = okRows (rowsOf tbl v)` by `rfl` -/
def okRows (rs : List Acc) : Bool :=
  rs.all (fun r => !r.write) || rs.all (fun r => r.atomic) ||
    (rs.flatMap (fun r => r.locks)).any (fun l => rs.all (guardedBy l))

def tableOk (tbl : List Acc) (vars : List String) (exempt : List (String × String)) : Bool :=
  vars.all (fun v =>
    let rs := tbl.filter fun r => codeEq r.v v
    okRows (rs.filter fun r => !r.ctor) && !rs.isEmpty) &&
    tbl.all (fun r => vars.any (fun v => codeEq r.v v) || exempt.any fun e => codeEq e.1 r.v) &&
    exempt.all (fun e => !vars.any fun v => codeEq e.1 v)

theorem tableOk_iff {tbl : List Acc} {vars : List String} {exempt : List (String × String)} :
    tableOk tbl vars exempt = true ↔ disciplined tbl vars = true ∧ populated tbl vars = true ∧
      covered tbl vars exempt = true ∧ exempt.all (fun e => !vars.contains e.1) = true := by
  have hv (v : String) : (tbl.filter fun r => r.v == v).filter (fun r => !r.ctor) = rowsOf tbl v := by
    simp only [rowsOf, List.filter_filter, Bool.and_comm]
  have he (v : String) : (!(tbl.filter fun r => r.v == v).isEmpty) = tbl.any fun r => r.v == v := by
    rw [Bool.eq_iff_iff]; simp
  simp only [tableOk, codeEq_eq_beq, hv, he, disciplined, populated, covered, List.contains_eq_any_beq,
    List.all_eq_true, Bool.and_eq_true, forall_and, and_assoc]
  rfl

theorem table_ok : disciplined table sharedVars = true ∧ populated table sharedVars = true ∧
    covered table sharedVars exemptVars = true ∧ exemptVars.all (fun e => !sharedVars.contains e.1) = true :=
  tableOk_iff.1 (by decide +kernel)

/-- The access table regenerated from the current source is disciplined, covers only declared variables
and every declared variable still has access rows. -/
theorem table_disciplined : disciplined table sharedVars = true := table_ok.1

theorem table_covered : covered table sharedVars exemptVars = true := table_ok.2.2.1

/-- `missingTypes`: tracked struct types that no longer exist in the source. -/
theorem tracked_types_present :
    missingTypes = [] ∧ exemptVars.all (fun e => !sharedVars.contains e.1) = true :=
  ⟨rfl, table_ok.2.2.2⟩

theorem table_populated : populated table sharedVars = true := table_ok.2.1

/-- **C20 (lock-based part).**  For every declared shared variable and every well-formed execution that
conforms to the regenerated access table, any two conflicting accesses by different threads are both atomic
or ordered by a release → acquire chain on a common lock: no data race on these variables. -/
theorem C20_no_race {v : String} (hv : v ∈ sharedVars)
    {τ : Trace} (wf : WF τ) (conf : Conforms table τ)
    {i j ti tj : Nat} {oi oj : Op} (hij : i < j)
    (hi : τ[i]? = some ⟨ti, oi⟩) (hj : τ[j]? = some ⟨tj, oj⟩)
    (hvi : opVar oi = some v) (hvj : opVar oj = some v) (hne : ti ≠ tj)
    (hconf : isWrite oi = true ∨ isWrite oj = true) :
    (isAtomic oi = true ∧ isAtomic oj = true) ∨ OrderedBySync τ i j ti tj :=
  no_unordered_conflict (List.all_eq_true.1 table_disciplined v hv) wf conf hij hi hj hvi hvj hne hconf

/-- A concrete well-formed trace of two threads that conforms to a two-row table: the hypotheses of the
theorem are satisfiable. -/
def demoTbl : List Acc :=
  [⟨"x", "f", true, false, ["m"], [], false⟩, ⟨"x", "g", false, false, ["m"], [], false⟩]

example : varOk demoTbl "x" = true := by decide +kernel

/-- what the check sees when a `Lock()` around an access is removed -/
example : varOk [⟨"x", "f", true, false, [], [], false⟩, ⟨"x", "g", false, false, ["m"], [], false⟩] "x" = false := by
  decide +kernel

/-- A write under a read lock does not count as guarded. -/
example : varOk [⟨"x", "f", true, false, [], ["m"], false⟩, ⟨"x", "g", false, false, [], ["m"], false⟩] "x" = false := by
  decide +kernel

/-- one row stands for a handler run by many goroutines -/
example : varOk [⟨"x", "f", true, false, [], [], false⟩] "x" = false := by decide +kernel

/-- F17, `tokens_t.count()`: a value-receiver method copies the struct at the call site, a plain read beside
atomic writers. -/
example : varOk [⟨"x", "get", true, true, [], [], false⟩, ⟨"x", "ret", true, true, [], [], false⟩,
                 ⟨"x", "pollOffer", false, false, [], [], false⟩] "x" = false := by decide +kernel

/-- with a pointer receiver the read is atomic -/
example : varOk [⟨"x", "get", true, true, [], [], false⟩, ⟨"x", "ret", true, true, [], [], false⟩,
                 ⟨"x", "count", false, true, [], [], false⟩] "x" = true := by decide +kernel

end Snowflake.C20
