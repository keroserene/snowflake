import Snowflake.Proofs.ProxySlots
/-!
# C16 — proxy honours its capacity and never leaks a session slot

Property theorems about the interleaving model `Model/ProxySlots.lean` of `proxy/lib/tokens.go` and of
`Start` / `runSession` / `datachannelHandler` in `proxy/lib/snowflake.go`.  `Reachable fixed N s`: `s` is
reachable under *any* interleaving of the poll loop, the `OnDataChannel` callbacks and the handler
goroutines, for capacity `N` (`0` = unlimited).  The properties are proved for the repaired skeleton
(`fixed = true`) and refuted for the pinned one by kernel-checked schedules (F11 of DESIGN.md §6).
-/
namespace Snowflake.ProxySlots.C16
open Snowflake.TotalMap

/-- **Never more than `N` sessions hold a slot** (`N ≥ 1`).  `held` lists, without repetition,
exactly the sessions that have taken a slot (`tokens.get()` completed) and not released it. -/
theorem in_use_le_capacity (N : Nat) (hN : 1 ≤ N) (s : St) (h : Reachable true N s) :
    s.held.length ≤ N ∧ s.held.Nodup ∧
    ∀ i, i ∈ s.held ↔ ((s.ss i).lp ≠ .absent ∧ (s.ss i).lp ≠ .acquiring ∧ (s.ss i).rets = 0) := by
  have hi := inv_reachable h
  have hN' : N ≠ 0 := by omega
  exact ⟨hi.chanN hN' ▸ hi.cap hN', hi.nodup, hi.heldIff⟩

/-- The token channel holds exactly one token per session holding a slot; a `tokens.ret()` never
blocks (so it never takes another session's token). -/
theorem tokens_match_sessions (N : Nat) (s : St) (h : Reachable true N s) :
    (N ≠ 0 → s.chLen = s.held.length) ∧ ∀ i, (s.ss i).lp ≠ .inRet ∧ (s.ss i).h ≠ .inRet :=
  ⟨(inv_reachable h).chanN, fun i => ⟨(inv_reachable h).noInRetL i, (inv_reachable h).noInRetH i⟩⟩

/-- **Every session releases its slot exactly once**: never more than one `tokens.ret()` per
session, and a session that is over (`runSession` returned on whichever of its exit paths, and no
handler activity left or possible) has executed exactly one. -/
theorem released_exactly_once (N : Nat) (s : St) (h : Reachable true N s) (i : Nat) :
    (s.ss i).rets ≤ 1 ∧ ((s.ss i).finished = true → (s.ss i).rets = 1) := by
  have hi := inv_reachable h
  by_cases hc : (s.ss i).cb = .unarmed
  · rw [hi.unarmedRets i hc]
    refine ⟨by split <;> omega, fun hf => ?_⟩
    simp only [Sess.finished, Bool.and_eq_true, beq_iff_eq] at hf
    simp [hf.1]
  · rw [hi.armedRets i hc]
    refine ⟨by split <;> omega, fun hf => ?_⟩
    cases ho : (s.ss i).once with
    | true => simp
    | false =>
      -- returned with the `Once` unconsumed: the callback has fired and its handler is still at work
      simp only [Sess.finished, Bool.and_eq_true, Bool.or_eq_true, beq_iff_eq] at hf
      obtain ⟨hcb, hh⟩ := hi.retNoOnce i hf.1 hc ho
      rcases hh with hh | hh <;> simp [hcb, hh] at hf

/-- Which exits release: a session that has returned without a peer connection ever existing has
released; one whose peer connection existed has released iff its `Once` is consumed. -/
theorem release_accounting (N : Nat) (s : St) (h : Reachable true N s) (i : Nat) :
    ((s.ss i).cb = .unarmed → (s.ss i).rets = if (s.ss i).lp = .returned then 1 else 0) ∧
    ((s.ss i).cb ≠ .unarmed → (s.ss i).rets = if (s.ss i).once then 1 else 0) :=
  ⟨(inv_reachable h).unarmedRets i, (inv_reachable h).armedRets i⟩

/-- **Full capacity after quiescence**: when every session that was ever started is over, no slot is
held, the token channel is empty and the client counter is 0. -/
theorem full_capacity_after_quiescence (N : Nat) (s : St) (h : Reachable true N s)
    (hq : ∀ i, (s.ss i).lp = .absent ∨ (s.ss i).finished = true) :
    s.held = [] ∧ s.chLen = 0 ∧ s.clients = 0 := by
  have hi := inv_reachable h
  have hheld : s.held = [] := by
    apply List.eq_nil_iff_forall_not_mem.2
    intro i hm
    obtain ⟨h1, _, h3⟩ := (hi.heldIff i).1 hm
    rcases hq i with hq | hq
    · exact h1 hq
    · have := (released_exactly_once N s h i).2 hq
      omega
  -- a session still acquiring is neither absent nor over
  have hacq : acqOf s = 0 := acqOf_eq_zero fun i _ hl => by
    rcases hq i with hq | hq <;> simp [Sess.finished, hl] at hq
  refine ⟨hheld, ?_, ?_⟩
  · by_cases hN : N = 0
    · exact hi.chan0 hN
    · rw [hi.chanN hN, hheld]; rfl
  · rw [hi.clients, hheld, hacq]; rfl

/-- The expression `(count / 8) * 8` is a multiple of 8 and, for a non-negative count, at most the
count; on naturals it is the translated Go expression (`Tie/ProxyLib.lean`). -/
theorem load_arith (c : Int) : (8 : Int) ∣ load c ∧ (0 ≤ c → load c ≤ c) ∧ ∀ n : Nat, load (n : Int) = (loadNat n : Int) :=
  ⟨load_dvd c, load_le c, load_nat⟩

/-- The reported load is the count rounded *down* to a multiple of 8: it understates by fewer than 8
(so the broker learns the count's bucket `8k … 8k+7` and nothing finer), … -/
theorem loadNat_within_8 (n : Nat) : loadNat n ≤ n ∧ n < loadNat n + 8 := by
  unfold loadNat; omega

/-- … it is monotone (more clients never report as fewer), … -/
theorem loadNat_mono (a b : Nat) (h : a ≤ b) : loadNat a ≤ loadNat b := by
  unfold loadNat; omega

/-- … and it is zero exactly while fewer than 8 clients are served. -/
theorem loadNat_zero_iff (n : Nat) : loadNat n = 0 ↔ n < 8 := by
  unfold loadNat; omega

/-- The same bound for the Go `int` expression on every non-negative count. -/
theorem load_within_8 (c : Int) (hc : 0 ≤ c) : load c ≤ c ∧ c < load c + 8 := by
  obtain ⟨n, rfl⟩ := Int.eq_ofNat_of_zero_le hc
  rw [load_nat n]
  have := loadNat_within_8 n
  omega

/-- **The load reported in every poll is a multiple of 8 and does not exceed the slots in use.**
`polls` logs every poll sent with the number of sessions holding a slot at that moment. -/
theorem load_multiple_of_8_le_in_use (N : Nat) (s : St) (h : Reachable true N s) :
    ∀ x ∈ s.polls, (8 : Int) ∣ x.1 ∧ x.1 ≤ (x.2 : Int) :=
  (inv_reachable h).polls

/-- The counter is the number of slots held, plus one exactly while the poll loop is blocked inside
`tokens.get()` (when it is not polling); it is never negative. -/
theorem count_is_slots_held (N : Nat) (s : St) (h : Reachable true N s) :
    s.clients = (s.held.length : Int) + (acqOf s : Int) ∧ acqOf s ≤ 1 ∧ 0 ≤ s.clients ∧
    (∀ i, (s.ss i).lp = .stage .poll → s.clients = (s.held.length : Int)) := by
  have hi := inv_reachable h
  refine ⟨hi.clients, acqOf_le_one s, ?_, ?_⟩
  · rw [hi.clients]; omega
  · intro i hl
    -- the polling session is the current one, so the loop is not inside `tokens.get()`
    have hc := hi.curOf i (by simp [hl]) (by simp [hl])
    rw [hi.clients, acqOf_eq_zero fun j hj => by simp_all]; rfl

/-! ## Non-vacuity -/

/-- One run of the repaired skeleton with capacity 2 through five exit paths (the F11 schedule among
them) ends with every session released once and everything free. -/
example :
    (run true 2 init
      ((Ev.fail .checkRelay).labels 0 ++ (Ev.fail .sendAnswer).labels 1 ++ Ev.race.labels 2 ++
        Ev.connect.labels 3 ++ Ev.timeout.labels 4 ++ (Ev.handlerEnd 3).labels 0)).map
      (fun s => ((List.range 5).all fun i => (s.ss i).finished && (s.ss i).rets == 1) &&
        s.clients == 0 && s.chLen == 0 && s.held == [] && s.polls.length == 5)
    = some true := by decide +kernel

/-- Capacity is really limiting: with `N = 1` and one connected session the next `get` is blocked
(counter 2, one slot held) until the handler ends. -/
example :
    (run true 1 init (Ev.connect.labels 0 ++ [.lStart 1])).map
      (fun s => s.clients == 2 && s.held == [0] && (step true 1 s (.lAcquire 1)).isNone &&
        ((run true 1 s [.hEnd 0, .hRelease 0, .lAcquire 1]).map fun t => t.clients == 1 && t.held == [1]) == some true)
    = some true := by decide +kernel

/-! ## The pinned skeleton: kernel-checked refutations (F11) -/

/-- The F11 schedule for session `i`: the answer is sent, the 20 s timer arm of the `select` is
taken, the `OnDataChannel` callback runs while `pc.Close()` is under way and starts the handler;
the timeout arm releases the slot; the handler ends (relay unreachable or copy loop over) and its
deferred `tokens.ret()` releases again. -/
def f11 (i : Nat) : List Lab := Ev.race.labels i

/-- **F11** on the pinned skeleton the session executes `tokens.ret()` twice; the counter is −1 and
the second `ret` is blocked on the empty token channel. -/
theorem pinned_double_release :
    (run false 1 init (f11 0)).map
      (fun s => (s.ss 0).rets == 2 && s.clients == -1 && (s.ss 0).h == .inRet && (s.ss 0).finished == false
        && (s.ss 0).lp == .returned)
    = some true := by decide +kernel

/-- … the blocked `ret` then takes the token of the next session, and a further session is admitted
although the only slot is taken: **two sessions hold a slot with capacity 1**. -/
def f11Overrun : List Lab := f11 0 ++ Ev.connect.labels 1 ++ [.hRetRecv 0] ++ Ev.connect.labels 2

theorem pinned_capacity_overrun :
    (run false 1 init f11Overrun).map
      (fun s => s.held == [2, 1] && s.chLen == 1 && (s.ss 1).h == .running && (s.ss 2).h == .running && s.clients == 1)
    = some true := by decide +kernel

/-- … or, when the handler's release comes first, the timeout arm's `ret` blocks the poll loop for
good: no label at all is enabled for the loop or for session 0 (capacity 1, nothing else running). -/
theorem pinned_poll_loop_blocked :
    (run false 1 init ([.lStart 0, .lAcquire 0, .lPoll 0] ++ List.replicate 5 (.lOk 0) ++
        [.cbFire 0, .lTimeout 0, .hEnd 0, .hRelease 0, .lRelease 0])).map
      (fun s => (s.ss 0).lp == .inRet && s.cur == some 0 && s.chLen == 0 && (s.ss 0).rets == 2 &&
        ([Lab.lStart 1, .lAcquire 0, .lPoll 0, .lOk 0, .lFail 0, .lData 0, .lTimeout 0, .lRelease 0, .lRetRecv 0,
          .cbFire 0, .cbDead 0, .hEnd 0, .hRelease 0, .hRetRecv 0].all fun l => (step false 1 s l).isNone))
    = some true := by decide +kernel

/-- Hence `released_exactly_once` and `in_use_le_capacity` are false for the pinned skeleton. -/
theorem pinned_released_exactly_once_fails :
    ¬ ∀ s, Reachable false 1 s → ∀ i, (s.ss i).rets ≤ 1 := by
  intro hall
  obtain ⟨s, hr, hw⟩ := Reach.of_runL_map pinned_double_release
  simp only [Bool.and_eq_true, beq_iff_eq] at hw
  have := hall s hr 0
  omega

theorem pinned_in_use_le_capacity_fails :
    ¬ ∀ s, Reachable false 1 s → s.held.length ≤ 1 := by
  intro hall
  obtain ⟨s, hr, hw⟩ := Reach.of_runL_map pinned_capacity_overrun
  simp only [Bool.and_eq_true, beq_iff_eq] at hw
  have := hall s hr
  simp [hw.1.1.1.1] at this

/-- The same schedule on the repaired skeleton: one release, session over, everything free. -/
theorem fixed_race_single_release :
    (run true 1 init (f11 0)).map
      (fun s => (s.ss 0).rets == 1 && s.clients == 0 && (s.ss 0).h == .done && (s.ss 0).finished && s.chLen == 0)
    = some true := by decide +kernel

end Snowflake.ProxySlots.C16
