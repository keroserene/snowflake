import Snowflake.Proofs.Heap
import Snowflake.Proofs.ClientMap
import Snowflake.Proofs.QueueConn
import Snowflake.Proofs.Redial
/-!
# C17 — turbotunnel packet adapters: no surfaced errors, leaks or aliasing

Property theorems about three models of `common/turbotunnel` (a fourth, `WriteTo` against the expiry
sweep, is in `Props/C17Sweep.lean`):

* (b) `Snowflake.Model.ClientMap` — `clientMapInner` over Go's `container/heap` (`Base/Heap.lean`);
* (c) `Snowflake.Model.QueueConn` — `QueuePacketConn`;
* (d) `Snowflake.Model.Redial` — interleaving LTS of `RedialPacketConn`, parameterised by the
  capacities of the two error channels of `exchange`.

(a) The heap theory (`Proofs/Heap.lean`), stated for the operations of Go's `container/heap`.
-/
namespace Snowflake.C17
open Snowflake

/-! ## (a) `container/heap` -/
section HeapTheory
open Snowflake.Heap
variable {α : Type} (key : α → Int)

/-- `Push` keeps the heap order and adds exactly the pushed element. -/
theorem heap_push (a : Array α) (x : α) (h : IsHeap key a) :
    IsHeap key (push (arrI key) a x) ∧ (push (arrI key) a x).Perm (a.push x) :=
  push_spec key a x h

/-- `Pop` returns the root, which is `less`-minimal, keeps the heap order and removes exactly that
element. -/
theorem heap_pop (a : Array α) (h : IsHeap key a) (hne : 0 < a.size) :
    (pop (arrI key) a).2 = some a[0]
    ∧ (∀ x ∈ a, key a[0] ≤ key x)
    ∧ IsHeap key (pop (arrI key) a).1
    ∧ a.Perm ((pop (arrI key) a).1.push a[0]) := by
  obtain ⟨p1, p2, p3⟩ := pop_spec key a h hne
  exact ⟨p1, root_min key a h hne, p2, p3⟩

/-- `Remove(i)` returns the element at `i`, keeps the heap order and removes exactly that element. -/
theorem heap_remove (a : Array α) (i : Nat) (h : IsHeap key a) (hi : i < a.size) :
    (remove (arrI key) a i).2 = some a[i]
    ∧ IsHeap key (remove (arrI key) a i).1
    ∧ a.Perm ((remove (arrI key) a i).1.push a[i]) :=
  remove_spec key a i h hi

/-- `Fix(i)` after overwriting the element at `i` of a heap restores the heap order and keeps the
elements. -/
theorem heap_fix (b : Array α) (i : Nat) (x : α) (hi : i < b.size) (h : IsHeap key b) :
    IsHeap key (fix (arrI key) (b.set i x hi) i) ∧ (fix (arrI key) (b.set i x hi) i).Perm (b.set i x hi) :=
  fix_set key b i x hi h

/-- `Init` establishes the heap order on any array and keeps the elements. -/
theorem heap_init (a : Array α) : IsHeap key (init (arrI key) a) ∧ (init (arrI key) a).Perm a :=
  init_spec key a

/-- **Index bookkeeping**, generically: for any implementation of `heap.Interface` whose `Swap`
hook refines the array swap and preserves an implementation invariant `Inv` (such as "every
element's stored index equals its position"), `Fix` — and likewise `up`, `down`, the bodies of `Push`,
`Pop`, `Remove` (`Proofs/Heap.lean`) — computes the same array as the plain heap and preserves `Inv`. -/
theorem heap_bookkeeping {σ : Type} {I : Iface σ α} {abs : σ → Array α} {Inv : σ → Prop}
    (R : Refines key I abs Inv) (s : σ) (i : Nat) (hi : Inv s) (hlt : i < (abs s).size) :
    abs (fix I s i) = fix (arrI key) (abs s) i ∧ Inv (fix I s i) :=
  fix_refines key R s i hi hlt

/-- **Index bookkeeping for elements with an `index` field** (`broker.SnowflakeHeap` style hooks:
`Swap` stores both new positions, `Push` stores `len`, `Pop` stores −1): if every element's stored
index equals its position, the same holds after `Push`, `Fix`, `Pop`, `Remove`, and the element
returned by `Pop`/`Remove` has index −1 (`none`).  (Forgetting the indices, the array is the plain
heap's result, so order, multiset and minimality transfer: `Proofs/Heap.lean`.) -/
theorem heap_index_bookkeeping (X : Indexed α) (L : X.Lawful key) (a : Array α) (h : IdxOk X a) :
    (∀ x, IdxOk X (push (idxI key X) a x))
    ∧ (∀ i, i < a.size → IdxOk X (fix (idxI key X) a i))
    ∧ (0 < a.size → IdxOk X (pop (idxI key X) a).1
        ∧ ∀ y, (pop (idxI key X) a).2 = some y → X.getIdx y = none)
    ∧ (∀ i, i < a.size → IdxOk X (remove (idxI key X) a i).1
        ∧ ∀ y, (remove (idxI key X) a i).2 = some y → X.getIdx y = none) :=
  ⟨fun x => (idx_push key X L a x h).1,
   fun i hi => (idx_fix key X L a i h hi).1,
   fun hne => ⟨(idx_pop key X L a h hne).idxOk, (idx_pop key X L a h hne).removed⟩,
   fun i hi => ⟨(idx_remove key X L a i h hi).idxOk, (idx_remove key X L a i h hi).removed⟩⟩

end HeapTheory

/-! ## (b) the client map -/
section ClientMapProps
open Snowflake.ClientMap Snowflake.Heap

/-- **byAddr and byAge hold the same records** after any sequence of `SendQueue` / `removeExpired` /
queue operations with any clock values: every record's address is mapped to its position, every map
entry points at the record with that address, the two lengths agree (so `Len()` cannot panic), the
age order is a heap, and `Push` never saw a duplicate address. -/
theorem byAddr_byAge_consistent (ops : List Op) :
    (∀ i r, (run ops).byAge[i]? = some r → (run ops).byAddr.get r.addr = some i)
    ∧ (∀ a i, (run ops).byAddr.get a = some i → ∃ r, (run ops).byAge[i]? = some r ∧ r.addr = a)
    ∧ (run ops).byAddr.size = (run ops).byAge.size
    ∧ IsHeap Rec.lastSeen (run ops).byAge
    ∧ (run ops).panicked = false := by
  have g := run_good ops
  exact ⟨g.cons.fwd, g.cons.bwd, g.cons.size, g.heap, g.nopanic⟩

/-- **Kept while seen.** A record (address, last-seen time *and queue contents*) whose idle time
`now − lastSeen` is below the timeout survives `removeExpired now timeout` unchanged, and its queue
is not closed by that sweep. -/
theorem kept_while_seen (ops : List Op) (now timeout : Int) (r : Rec)
    (hr : r ∈ (run ops).byAge) (hseen : now - r.lastSeen < timeout) :
    r ∈ (removeExpired (run ops) now timeout).byAge
    ∧ ∃ removed, (removeExpired (run ops) now timeout).closed = (run ops).closed ++ removed ∧ r ∉ removed := by
  obtain ⟨_, removed, hc, _, hrem, hkeep⟩ := removeExpired_spec (run ops) now timeout (run_good ops)
  have hne : ¬ Expired now timeout r := by unfold Expired; omega
  exact ⟨(hkeep r).2 ⟨hr, hne⟩, removed, hc, fun h => hne ((hrem r).1 h).2⟩

/-- `SendQueue(a, t)` keeps every record with its queue contents; only the `LastSeen` of `a`'s own
record changes (to `t`). -/
theorem sendQueue_keeps_records (ops : List Op) (a : Nat) (t : Int) (r : Rec) (hr : r ∈ (run ops).byAge) :
    (if r.addr = a then { r with lastSeen := t } else r) ∈ (sendQueue (run ops) a t).byAge :=
  sendQueue_keeps (run ops) a t (run_good ops) r hr

/-- **Removed exactly when idle.** `removeExpired now timeout` removes precisely the records with
`now − lastSeen ≥ timeout` and closes precisely their queues (appended to the log of closed queues);
everything else stays, as the same multiset of records. -/
theorem removed_exactly_when_idle (ops : List Op) (now timeout : Int) :
    ∃ removed : List Rec,
      (removeExpired (run ops) now timeout).closed = (run ops).closed ++ removed
      ∧ (run ops).byAge.toList.Perm ((removeExpired (run ops) now timeout).byAge.toList ++ removed)
      ∧ (∀ r, r ∈ removed ↔ r ∈ (run ops).byAge ∧ now - r.lastSeen ≥ timeout)
      ∧ (∀ r, r ∈ (removeExpired (run ops) now timeout).byAge ↔ r ∈ (run ops).byAge ∧ now - r.lastSeen < timeout) := by
  obtain ⟨_, removed, hc, hp, hrem, hkeep⟩ := removeExpired_spec (run ops) now timeout (run_good ops)
  refine ⟨removed, hc, hp, hrem, ?_⟩
  intro r
  rw [hkeep r]
  unfold Expired
  constructor <;> rintro ⟨h1, h2⟩ <;> exact ⟨h1, by omega⟩

/-- **Sweep arithmetic.** With sweeps at `s0, s0 + h, s0 + 2h, …` (`h > 0`) and a record last seen at
`L ≥ s0`, some sweep falls into `[L + timeout, L + timeout + h)`. -/
theorem sweep_within (s0 h L timeout : Int) (hh : 0 < h) (hL : s0 ≤ L) (ht : 0 ≤ timeout) :
    ∃ k : Nat, L + timeout ≤ s0 + k * h ∧ s0 + k * h < L + timeout + h := by
  -- `k = ⌈d / h⌉` for the distance `d` from the first sweep to `L + timeout`
  let d := L + timeout - s0
  have hq : 0 ≤ (d + h - 1) / h := Int.ediv_nonneg (by omega) (by omega)
  have h1 := Int.mul_ediv_add_emod (d + h - 1) h
  have h2 := Int.emod_nonneg (d + h - 1) (by omega : h ≠ 0)
  have h3 := Int.emod_lt_of_pos (d + h - 1) hh
  refine ⟨((d + h - 1) / h).toNat, ?_, ?_⟩
  all_goals
    rw [Int.toNat_of_nonneg hq, Int.mul_comm]
    omega

/-- **Idle records are removed within 1.5 × timeout** (nominal: sweeps every `timeout/2`,
`NewClientMap`'s loop): if a record was last seen at `L` and is not refreshed, the first sweep at or
after `L + timeout` happens before `L + timeout + timeout/2`, and that sweep removes the record and
closes its queue (`removed_exactly_when_idle`); no earlier sweep does (`kept_while_seen`). -/
theorem idle_removed_within_one_and_a_half (ops : List Op) (s0 timeout : Int) (r : Rec)
    (ht : 2 ≤ timeout) (hr : r ∈ (run ops).byAge) (hL : s0 ≤ r.lastSeen) :
    ∃ k : Nat,
      let now := s0 + k * (timeout / 2)
      r.lastSeen + timeout ≤ now ∧ 2 * (now - r.lastSeen) < 3 * timeout
      ∧ r ∉ (removeExpired (run ops) now timeout).byAge
      ∧ ∃ removed, (removeExpired (run ops) now timeout).closed = (run ops).closed ++ removed ∧ r ∈ removed := by
  have hh : 0 < timeout / 2 := by omega
  obtain ⟨k, h1, h2⟩ := sweep_within s0 (timeout / 2) r.lastSeen timeout hh hL (by omega)
  obtain ⟨removed, hc, _, hrem, hkeep⟩ := removed_exactly_when_idle ops (s0 + k * (timeout / 2)) timeout
  refine ⟨k, h1, by omega, fun hin => ?_, removed, hc, (hrem r).2 ⟨hr, by omega⟩⟩
  have := ((hkeep r).1 hin).2
  omega

end ClientMapProps

/-! ## (c) the queue connection -/
section QueueConnProps
open Snowflake.ClientMap Snowflake.QueueConn

/-- **FIFO, incoming.** Over any operation sequence from the initial state, the packets handed out by
`ReadFrom` followed by the packets still queued are exactly the packets `QueueIncoming` accepted, in
call order: nothing is reordered, duplicated, altered or lost once accepted. -/
theorem fifo_incoming_all (ops : List QueueConn.Op) :
    deliveredIn QueueConn.init ops ++ (QueueConn.run QueueConn.init ops).1.recvQ
      = acceptedIn QueueConn.init ops := by
  simpa [QueueConn.init] using fifo_incoming ops QueueConn.init

/-- **FIFO per address.** For every client address, in both directions: deliveries from that address
are a prefix of what was accepted from it (incoming), and the packets taken from `OutgoingQueue(a)`
followed by those still queued for `a` are exactly the packets `WriteTo(·, a)` enqueued (outgoing).
(The outgoing statement is between sweeps: `removeExpired` is the subject of part (b).) -/
theorem fifo_per_address (ops : List QueueConn.Op) (a : Nat) :
    ((deliveredIn QueueConn.init ops).filter (fun x => x.2 == a)
        ++ ((QueueConn.run QueueConn.init ops).1.recvQ).filter (fun x => x.2 == a)
      = (acceptedIn QueueConn.init ops).filter (fun x => x.2 == a))
    ∧ (takenOut a QueueConn.init ops ++ queueOf (QueueConn.run QueueConn.init ops).1.clients a
      = acceptedOut a QueueConn.init ops) := by
  constructor
  · rw [← List.filter_append, fifo_incoming_all]
  · have := fifo_outgoing a ops QueueConn.init good_empty
    simpa [QueueConn.init, queueOf, recOf, ClientMap.empty, IdxMap.empty] using this

/-- **Copy on enqueue.** The packet `ReadFrom` hands out is the value the caller's buffer had when
`QueueIncoming` was called (the model stores values, so a later reuse of the buffer cannot change it):
the delivered sequence is a prefix of the sequence of accepted call-time values.  Same for
`WriteTo`/`OutgoingQueue` per address. -/
theorem copy_on_enqueue (ops : List QueueConn.Op) (a : Nat) :
    deliveredIn QueueConn.init ops <+: acceptedIn QueueConn.init ops
    ∧ takenOut a QueueConn.init ops <+: acceptedOut a QueueConn.init ops :=
  ⟨⟨_, fifo_incoming_all ops⟩, ⟨_, (fifo_per_address ops a).2⟩⟩

/-- The receive queue never exceeds `queueSize`. -/
theorem recvQ_bounded (ops : List QueueConn.Op) : ∀ s : QueueConn.St, s.recvQ.length ≤ queueSize →
    (QueueConn.run s ops).1.recvQ.length ≤ queueSize := by
  refine run_inv (fun s => s.recvQ.length ≤ queueSize) (fun s op h => ?_) ops
  cases op with
  | incoming p a =>
    simp only [QueueConn.step, queueIncoming]
    split
    · exact h
    · split
      · simp; omega
      · exact h
  | write p a t => simp only [QueueConn.step, writeTo]; split <;> exact h
  | read n =>
    simp only [QueueConn.step, readFrom]
    split
    · exact h
    · split
      · rename_i heq; rw [heq] at h; simp at h ⊢; omega
      · exact h
  | out a t => exact h
  | close e => simp only [QueueConn.step, closeWithError]; split <;> exact h

/-- **Never blocks; full ⇒ drop.** `QueueIncoming` and `WriteTo` are total (they have no blocked
outcome) and leave a full queue unchanged; `ReadFrom` is the only operation that can wait, and it
does so exactly when the connection is open and nothing is queued. -/
theorem never_blocks (s : QueueConn.St) (p : Bytes) (a : Nat) (t : Int) (n : Nat) :
    (s.recvQ.length = queueSize → queueIncoming s p a = s)
    ∧ ((queueOf (sendQueue s.clients a t) a).length = queueSize → Good s.clients → s.closed = false →
        queueOf (writeTo s p a t).1.clients a = queueOf s.clients a ∧ (writeTo s p a t).2 = .ok p.length)
    ∧ ((readFrom s n).2 = .wouldBlock ↔ s.closed = false ∧ s.recvQ = []) := by
  refine ⟨?_, ?_, ?_⟩
  · intro h
    unfold queueIncoming
    split
    · rfl
    · simp [h]
  · intro h g hc
    have g' := (sendQueue_good s.clients a t g).1
    have hoff : (offer (sendQueue s.clients a t) a p).2 = false := by
      generalize sendQueue s.clients a t = c at h
      -- `offer` accepts only below `queueSize`
      fun_cases offer c a p
      · next i hg r hr hl =>
        simp only [queueOf, recOf, hg, hr, Option.map_some, Option.getD_some] at h
        omega
      all_goals rfl
    unfold writeTo
    simp only [hc, Bool.false_eq_true, if_false]
    refine ⟨?_, trivial⟩
    rw [queueOf_offer _ a p g' a, hoff, queueOf_sendQueue _ a t g a]
    simp
  · unfold readFrom
    by_cases hc : s.closed = true
    · simp [hc]
    · cases s.recvQ with
      | nil => simp [hc]
      | cons x rest => simp [hc]

/-- **Operations fail after Close**: `ReadFrom` and `WriteTo` return the stored error and change
nothing, `QueueIncoming` drops silently; and `closed` is permanent. -/
theorem ops_fail_after_close (s : QueueConn.St) (hc : s.closed = true) (p : Bytes) (a : Nat) (t : Int) (n : Nat) :
    readFrom s n = (s, .err s.theErr)
    ∧ writeTo s p a t = (s, .err s.theErr)
    ∧ queueIncoming s p a = s
    ∧ ∀ ops, (QueueConn.run s ops).1.closed = true ∧ (QueueConn.run s ops).1.err = s.err := by
  refine ⟨by simp [readFrom, hc], by simp [writeTo, hc], by simp [queueIncoming, hc], ?_⟩
  refine fun ops => run_inv (fun s' => s'.closed = true ∧ s'.err = s.err) (fun s' op h => ?_) ops s ⟨hc, rfl⟩
  cases op <;> simp [QueueConn.step, queueIncoming, writeTo, readFrom, takeOutgoing, closeWithError, h.1, h.2]

/-- **Close once.** The first `Close`/`closeWithError` returns nil and stores the error
(`errClosedPacketConn` if nil was given); every later one returns an error wrapping the *first*
stored error and changes nothing — in particular it cannot replace the stored error. -/
theorem close_once (s : QueueConn.St) (e e' : Option Err) (hc : s.closed = false) :
    (closeWithError s e).2 = none
    ∧ (closeWithError s e).1.closed = true
    ∧ (closeWithError s e).1.theErr = e.getD .closedConn
    ∧ closeWithError (closeWithError s e).1 e' = ((closeWithError s e).1, some (e.getD .closedConn)) := by
  simp [closeWithError, hc, QueueConn.St.theErr]

end QueueConnProps

/-! ## (d) the redialing connection -/
section RedialProps
open Snowflake.Redial

/-- **Errors only after Close or a failed dial.** In every reachable state, for any capacities: if a
`ReadFrom`/`WriteTo` of the RedialPacketConn has returned an error then the connection is closed, and
it is closed only because the user called `Close` or a dial failed.  Carrier faults never surface. -/
theorem error_only_after_close_or_dialfail (capR capW : Nat) (s : Redial.St) (h : Reachable capR capW s) :
    (s.errSurfaced = true → s.closed = true) ∧ (s.closed = true → s.userClosed = true ∨ s.dialFailed = true) :=
  ⟨(inv_reachable h).1.errClosed, (inv_reachable h).1.closedWhy⟩

/-- **At most one active carrier**: two dialed carriers that have not been closed are the same one
(and it is the last one dialed, on which `exchange`/`conn.Close()` is currently running). -/
theorem at_most_one_active_carrier (capR capW : Nat) (s : Redial.St) (h : Reachable capR capW s) (j k : Nat)
    (hj : j < s.n) (hjo : s.cclosed j = false) (hk : k < s.n) (hko : s.cclosed k = false) :
    j = k ∧ j + 1 = s.n := by
  have i1 := (inv_reachable h).1
  have a := i1.carr.currentIsLast j (i1.carr.openIsCurrent j hj hjo)
  have b := i1.carr.currentIsLast k (i1.carr.openIsCurrent k hk hko)
  omega

/-- **Every carrier is closed.** Whenever `dialLoop` is not inside `exchange(conn); conn.Close()` —
in particular when it dials again and when it has returned — every carrier it ever obtained has been
closed; and when it is inside, all earlier carriers have been. -/
theorem every_carrier_closed (capR capW : Nat) (s : Redial.St) (h : Reachable capR capW s) :
    ((s.main = .top ∨ s.main = .dialing ∨ s.main = .done) → ∀ k, k < s.n → s.cclosed k = true)
    ∧ (∀ k, k + 1 < s.n → s.cclosed k = true) := by
  have i1 := (inv_reachable h).1
  constructor
  · intro hm k hk
    cases hc : s.cclosed k with
    | true => rfl
    | false =>
      have h' := i1.carr.openIsCurrent k hk hc
      rcases hm with h2 | h2 | h2 <;> rw [h2] at h' <;> cases h'
  · intro k hk
    cases hc : s.cclosed k with
    | true => rfl
    | false =>
      have := i1.carr.currentIsLast k (i1.carr.openIsCurrent k (by omega) hc)
      omega

/-- **No retained goroutine** (both error channels buffered, capacity ≥ 1 — the repaired code).
In every reachable state, for every closed carrier `k`:
1. *never blocked*: if one of its two goroutines has not returned, one of them has an enabled step
   of its own (the reader always; the writer at the latest once the reader has returned) — in
   particular neither is blocked in a channel send with no receiver;
2. *bounded*: no step of anybody increases `rank s k ≤ 8`, every step of these two goroutines
   decreases it, and carrier `k` stays closed; hence under weak fairness both return after at most 8
   of their own steps;
3. *can finish*: a schedule of at most `rank s k` steps of these two goroutines alone leads to a
   state where both have returned. -/
theorem no_retained_goroutine (capR capW : Nat) (hR : 1 ≤ capR) (hW : 1 ≤ capW) (s : Redial.St)
    (h : Reachable capR capW s) (k : Nat) (hc : s.cclosed k = true) :
    (0 < rank s k → ∃ l ∈ groupLabels k, (Redial.step capR capW s l).isSome = true)
    ∧ (∀ l s', Redial.step capR capW s l = some s' →
        rank s' k ≤ rank s k ∧ (l ∈ groupLabels k → rank s' k < rank s k) ∧ s'.cclosed k = true)
    ∧ (∃ ls s', (∀ l ∈ ls, l ∈ groupLabels k) ∧ ls.length ≤ rank s k
        ∧ Redial.run capR capW s ls = some s' ∧ finished s' k) := by
  obtain ⟨i1, i2⟩ := inv_reachable h
  have hk := i1.carr.closedDialed k hc
  refine ⟨fun hr => group_progress hR hW i2 hk hr, ?_, ?_⟩
  · intro l s' hs
    obtain ⟨a, b, c, _⟩ := rank_step hs hc hk
    exact ⟨a, b, c⟩
  · exact can_finish hR hW i2 hk hc

/-- Rank 0 of a dialed carrier means both goroutines have returned. -/
theorem rank_zero_finished (capR capW : Nat) (s : Redial.St) (h : Reachable capR capW s) (k : Nat)
    (hk : k < s.n) (h0 : rank s k = 0) : finished s k :=
  (rank_eq_zero_iff ((inv_reachable h).2.present k hk)).1 h0

/-! ### Negative witnesses: the pinned tree (unbuffered error channels, F12) -/

/-- F12, write side fails first: the writer's error is taken by `exchange`, the carrier is closed,
the reader's `ReadFrom` fails, and the reader blocks in `readErrCh <- err`. -/
def schedWriteFirst : List Label :=
  [.mTopDefault, .dialOk, .apiWrite, .rDefault 0, .wSelPkt 0, .writeFail 0, .wSendToMain 0, .wExit 0,
   .mClose 0, .readFail 0]

/-- **`no_retained_goroutine` is false for an unbuffered `readErrCh`** (pinned tree): the schedule
`schedWriteFirst` is executable, reaches a state where carrier 0 is closed and its reader sits in its
send, no step of carrier 0's goroutines is enabled, and in *every* continuation the reader is still
there — one goroutine retained per such redial. -/
theorem pinned_reader_leak_write_first (capW : Nat) :
    ∃ s, Redial.run 0 capW Redial.init schedWriteFirst = some s ∧ Reachable 0 capW s
      ∧ s.cclosed 0 = true ∧ LeakedReader s 0
      ∧ (∀ l ∈ groupLabels 0, Redial.step 0 capW s l = none)
      ∧ ∀ ls s', Redial.run 0 capW s ls = some s' → s'.rd 0 = .sending := by
  -- `capW` is a variable, so the schedule is run by rewriting instead of evaluation
  have hrun : holdsAfter 0 capW schedWriteFirst (fun s => s.cclosed 0 && decide (LeakedReader s 0)) = true := by
    simp only [holdsAfter, schedWriteFirst, Redial.run, Redial.step, Redial.init, Chan.ready, queueSize]
    simp [LeakedReader, upd]
  obtain ⟨s, h1, h2, h3⟩ := holdsAfter_spec 0 capW _ _ hrun
  simp only [Bool.and_eq_true, decide_eq_true_eq] at h3
  exact ⟨s, h1, h2, h3.1, h3.2, fun l hl => leaked_blocked (.inl ⟨rfl, h3.2⟩) hl,
    fun ls s' hr => (run_inv (fun _ _ _ hs => (leaked_step 0 hs).1 rfl) h3.2 hr).1⟩

/-- F12 at `Close()` of a live carrier: the writer sees `closed`, `exchange` returns, the carrier is
closed, the reader's `ReadFrom` fails and it blocks in its send. -/
def schedCloseLive : List Label :=
  [.mTopDefault, .dialOk, .rDefault 0, .userClose, .wSelClosed 0, .wExit 0, .mRecvW 0, .mClose 0,
   .mTopClosed, .readFail 0]

theorem pinned_reader_leak_at_close :
    ∃ s, Redial.run 0 0 Redial.init schedCloseLive = some s ∧ Reachable 0 0 s
      ∧ s.main = .done ∧ LeakedReader s 0 := by
  have hrun : holdsAfter 0 0 schedCloseLive (fun s => decide (s.main = .done) && decide (LeakedReader s 0)) = true := by
    decide +kernel
  obtain ⟨s, h1, h2, h3⟩ := holdsAfter_spec 0 0 _ _ hrun
  simp only [Bool.and_eq_true, decide_eq_true_eq] at h3
  exact ⟨s, h1, h2, h3.1, h3.2⟩

/-- The mirror image for an unbuffered `writeErrCh`: the read side fails first while the writer is
inside `WriteTo`; `exchange` takes the reader's error and closes the carrier; the write then fails and
the writer blocks in `writeErrCh <- err` forever. -/
def schedReadFirstThenWrite : List Label :=
  [.mTopDefault, .dialOk, .apiWrite, .rDefault 0, .wSelPkt 0, .readFail 0, .rSendToMain 0, .rExit 0,
   .mClose 0, .writeFail 0]

theorem pinned_writer_leak_read_first (capR : Nat) :
    ∃ s, Redial.run capR 0 Redial.init schedReadFirstThenWrite = some s ∧ Reachable capR 0 s
      ∧ LeakedWriter s 0 ∧ ∀ ls s', Redial.run capR 0 s ls = some s' → s'.wr 0 = .sending := by
  have hrun : holdsAfter capR 0 schedReadFirstThenWrite (fun s => decide (LeakedWriter s 0)) = true := by
    simp only [holdsAfter, schedReadFirstThenWrite, Redial.run, Redial.step, Redial.init, Chan.ready, queueSize]
    simp [LeakedWriter, upd]
  obtain ⟨s, h1, h2, h3⟩ := holdsAfter_spec capR 0 _ _ hrun
  simp only [decide_eq_true_eq] at h3
  exact ⟨s, h1, h2, h3, fun ls s' hr => (run_inv (fun _ _ _ hs => (leaked_step 0 hs).2 rfl) h3 hr).1⟩

/-- One retained goroutine *per redial*: two write-first carriers in a row leave two readers blocked. -/
theorem pinned_leak_per_redial :
    holdsAfter 0 0 (schedWriteFirst ++ [.mTopDefault, .dialOk, .apiWrite, .rDefault 1, .wSelPkt 1, .writeFail 1,
        .wSendToMain 1, .wExit 1, .mClose 1, .readFail 1])
      (fun s => decide (LeakedReader s 0) && decide (LeakedReader s 1)) = true := by
  decide +kernel

/-! ### Non-vacuity -/

/-- With capacity 1 the same write-first schedule continues: the reader's send is buffered, it
closes its channel and returns; both goroutines of carrier 0 have finished. -/
example : holdsAfter 1 1 (schedWriteFirst ++ [.rSend 0, .rExit 0])
    (fun s => decide (finished s 0) && s.cclosed 0 && decide (rank s 0 = 0)) = true := by decide +kernel

/-- The hypothesis `s.cclosed k` of `no_retained_goroutine` is reachable with work left to do. -/
example : holdsAfter 1 1 schedWriteFirst (fun s => s.cclosed 0 && decide (rank s 0 = 2)) = true := by
  decide +kernel

/-- A dial failure closes the connection and surfaces as an error; a carrier failure does not. -/
example : holdsAfter 1 1 [.mTopDefault, .dialFail, .apiWrite]
    (fun s => s.errSurfaced && s.dialFailed && !s.userClosed) = true := by decide +kernel
example : holdsAfter 1 1 (schedWriteFirst ++ [.apiWrite, .mTopDefault, .dialOk])
    (fun s => !s.errSurfaced && !s.closed && decide (s.n = 2) && s.cclosed 0 && !s.cclosed 1) = true := by
  decide +kernel

end RedialProps

/-! ## Non-vacuity of (a) -/
section HeapExamples
open Snowflake.Heap

/-- records (key, stored index) -/
def exIdx : Indexed (Int × Option Nat) := ⟨fun x => x.2, fun x v => (x.1, v)⟩

/-- Go's algorithms on a concrete heap with an index field: pushes, a remove in the middle and a pop
give the layouts Go gives, with every stored index equal to the position and −1 on the removed ones. -/
example :
    let I := idxI (fun x : Int × Option Nat => x.1) exIdx
    let h := [5, 3, 8, 1, 9, 2].foldl (fun a k => push I a ((k : Int), none)) #[]
    h.toList = [(1, some 0), (3, some 1), (2, some 2), (5, some 3), (9, some 4), (8, some 5)]
    ∧ (remove I h 1).2 = some (3, none)
    ∧ (remove I h 1).1.toList = [(1, some 0), (5, some 1), (2, some 2), (8, some 3), (9, some 4)]
    ∧ (pop I h).2 = some (1, none)
    ∧ (pop I h).1.toList = [(2, some 0), (3, some 1), (8, some 2), (5, some 3), (9, some 4)] := by
  decide +kernel

example : (init (arrI (fun x : Int => x)) #[9, 4, 7, 1, 3, 8, 2]).toList = [1, 3, 2, 4, 9, 8, 7] := by
  decide +kernel

end HeapExamples

/-! ## Non-vacuity of (b) and (c) -/
section Examples
open Snowflake.ClientMap

/-- Three clients, refreshed out of order; a sweep at 25 with timeout 10 removes exactly the two idle
ones (in age order) and keeps the refreshed one with its queued packet. -/
example :
    let s := ClientMap.run [.send 1 0, .send 2 5, .send 3 7, .write 1 20 [0xAA], .sweep 25 10]
    (s.byAge.toList.map (fun r => (r.addr, r.lastSeen, r.queue)) = [(1, 20, [[0xAA]])])
    ∧ s.closed.map (·.addr) = [2, 3] ∧ s.byAddr.get 1 = some 0 ∧ s.byAddr.get 2 = none ∧ s.byAddr.size = 1 := by
  decide +kernel

/-- The heap really reorders: refreshing the root moves it below its children. -/
example :
    (ClientMap.run [.send 1 0, .send 2 1, .send 3 2, .send 1 9]).byAge.toList.map (·.addr) = [2, 1, 3] := by
  decide +kernel

open Snowflake.QueueConn in
/-- Queue connection: FIFO per address, truncating read, close-once. -/
example :
    (QueueConn.run QueueConn.init
      [.incoming [1] 7, .incoming [2, 2] 8, .incoming [3] 7, .read 1500, .read 1, .write [9] 7 0, .write [8] 7 1,
       .out 7 2, .close none, .close (some (.custom 3)), .read 10, .write [1] 7 3, .out 7 4]).2
    = [.none, .none, .none, .read (.ok [1] 7), .read (.ok [2] 8), .write (.ok 1), .write (.ok 1), .out (some [9]),
       .close none, .close (some .closedConn), .read (.err .closedConn), .write (.err .closedConn), .out (some [8])] := by
  decide +kernel

end Examples

end Snowflake.C17
