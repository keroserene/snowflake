import Snowflake.Props.C07
import Snowflake.Tie.SafelogF4
/-!
# C07, the part that needs the F4 repair (`ipv6Compressed` with up to seven groups beside `::`)

This module and `Tie/SafelogF4.lean` hold only for a source with the F4 repair; without it, what holds is
`coverage_partial` / `scrub_clean_go_partial` of `Props/C07.lean`.
-/
namespace Snowflake.Safelog.C07
open Snowflake.Rx Snowflake.Safelog

/-- **Coverage** (clause "every IPv4 or IPv6 address (bare, bracketed, with or without a port, compressed or
IPv4-embedded)"): every spelling of the independent grammar `AddrGo` — dotted quad; eight groups; six groups
and a dotted quad; one `::` with at most seven groups around it, possibly ending in a dotted quad; each
bare, `[v6]`, `v4:port`, `[v6]:port` — is in the language of the regenerated `addressPattern`. -/
theorem coverage (a : List Tok) (h : AddrGo a) : Lang addrRx a := by
  obtain ⟨n, hn, he⟩ := Tie.Safelog.compressed_covers_seven_groups
  exact lang_of_shape he (L_addrGo hn h)

theorem coverage_ipv6_compressed (l r : Nat) (a : List Tok) (hlr : l + r ≤ 7) (h : V6Comp l r a) :
    Lang addrRx a := coverage _ (Or.inr (Or.inl (Or.inr (Or.inr (Or.inl ⟨l, r, hlr, h⟩)))))

/-- A Go-spelled address standing exposed in a text. -/
def ExposedGo (toks : List Tok) : Prop :=
  ∃ pre a post, toks = pre ++ (a ++ post) ∧ AddrGo a ∧ LeftOK pre ∧ RightOK post

/-- **No address Go prints or accepts survives** the repaired scrubber, in any byte string. -/
theorem scrub_clean_go (l : Bytes) : ¬ ExposedGo (decode (scrubFixed l)) :=
  -- `ExposedGo` unfolds to `ExposedWith` at the counts of `AddrGo`
  fun h => scrub_clean l (ExposedWith.rx coverage h)

/-- Seven groups beside `::` (the F4 spelling) are found by the current pattern; the inner replacement
prefers the `ipv6Address` alternative, which covers all but the last group — the address is gone, a
stranded `:abcd` stays (not an address; recorded in the report, not claimed). -/
example : scrubFixed (ofStr "x ::2:3:4:5:6:7:abcd\n") = ofStr "x [scrubbed]:abcd\n" := by decide +kernel

end Snowflake.Safelog.C07
