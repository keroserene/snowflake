import Snowflake.Proofs.Metrics
/-!
# C19 — published broker counts are rounded up to 8 and never too low

About `Snowflake.Model.Metrics` (`broker/metrics.go`, `broker/prometheus.go`, the counter call sites of
`broker/ipc.go`, `common/ipsetsink`, `common/ipsetsink/sinkcluster`).

Level: proof-partial.  Modelled, not verified: float64 exactness of `binCount` below 2^53 (stated at
`Metrics.binCount`, sampled by the harness); HyperLogLog++ (abstracted as an exact finite set),
gob/JSON encoding of the journal, HMAC-SHA3 as the masking function parameter `m`.
-/
namespace Snowflake.Metrics.C19

/-- **Rounding clause.** `ceil8 n` is a multiple of 8, never below `n`, never more than 7 above. -/
theorem ceil8_spec (n : Nat) : 8 ∣ ceil8 n ∧ n ≤ ceil8 n ∧ ceil8 n < n + 8 :=
  roundedOK_ceil8 n

/-- A larger true count is never published as a smaller number. -/
theorem ceil8_mono (a b : Nat) (h : a ≤ b) : ceil8 a ≤ ceil8 b :=
  Nat.mul_le_mul_right 8 (Nat.div_le_div_right (Nat.add_le_add_right h 7))

/-- Publishing twice cannot inflate a count. -/
theorem ceil8_idem (n : Nat) : ceil8 (ceil8 n) = ceil8 n :=
  ((roundedOK_iff _ _).1 ⟨(roundedOK_ceil8 n).1, Nat.le_refl _, Nat.lt_add_of_pos_right (by decide)⟩).symm

/-- A published `0` means exactly "no events". -/
theorem ceil8_zero_iff (n : Nat) : ceil8 n = 0 ↔ n = 0 :=
  ⟨fun h => Nat.le_zero.1 (h ▸ (roundedOK_ceil8 n).2.1), fun h => by rw [h]; rfl⟩

/-- The published value is the true one exactly for multiples of 8. -/
theorem ceil8_fixed_iff (n : Nat) : ceil8 n = n ↔ 8 ∣ n := by
  rw [eq_comm, ← roundedOK_iff]; unfold RoundedOK; omega

/-- **What a published count reveals**: two true counts are published as the same number exactly when they
fall in the same bucket `8k-7 … 8k`. -/
theorem ceil8_bucket (a b : Nat) : ceil8 a = ceil8 b ↔ (a + 7) / 8 = (b + 7) / 8 :=
  ⟨Nat.eq_of_mul_eq_mul_right (by decide), congrArg (· * 8)⟩

/-- The three requirements single out one value: anything published that satisfies them is `ceil8` of the
true count. -/
theorem rounded_unique (t v : Nat) : RoundedOK t v ↔ v = ceil8 t := roundedOK_iff t v

/-- **Metrics log, event counts.** For every history of requests and period ends, each of the eight
event counts `printMetrics` publishes is `ceil8` of the number of requests of that kind since the
last period end (kinds given by the declarative table `hits`, independent of the increments). -/
theorem log_counts_rounded (h : List Op) :
    (h.foldl Counters.op Counters.zero).publish = (trueCounts (sinceZero h [])).map ceil8 := by
  have h1 := foldl_op_sinceZero h []
  rw [List.foldl_nil] at h1
  rw [Counters.publish, h1, foldl_apply_toList]
  simp [Counters.zero, Counters.toList, trueCounts, binCount]

/-- Each published log count satisfies the rounding clause w.r.t. the true count. -/
theorem log_counts_ok (h : List Op) (k : Nat) (hk : k < 8) :
    RoundedOK ((trueCounts (sinceZero h [])).getD k 0) (((h.foldl Counters.op Counters.zero).publish).getD k 0) := by
  rw [log_counts_rounded, roundedOK_iff, List.getD_eq_getElem?_getD, List.getD_eq_getElem?_getD, List.getElem?_map]
  cases (trueCounts (sinceZero h []))[k]? <;> rfl

/-- **Serialised `Inc`.** After any number `k` of serialised `Inc()` calls on a fresh counter,
`total = k` and `value = ceil8 total`. -/
theorem rounded_serial (k : Nat) : RC.incN k RC.zero = ⟨k, ceil8 k⟩ := by
  have := incN_exact k 0
  simpa [RC.zero, ceil8] using this

/-- In the interleaving model, a thread running one `Inc()` of the *pinned* body alone from a quiescent state
performs exactly the serial `Inc`. -/
theorem lts_solo_inc_is_serial (total value : Nat) :
    let s0 : St 1 := ⟨total, value, none, fun _ => .idle, 0⟩
    let s := run false (List.replicate (if total + 1 > value then 4 else 3) 0) s0
    Quiescent s ∧ s.done = 1 ∧ (⟨s.total, s.value⟩ : RC) = (⟨total, value⟩ : RC).inc := by
  by_cases h : total + 1 > value <;>
    simp [run, step, finish, RC.inc, incGuard, h, Quiescent, upd, List.replicate]

/-- **Concurrent `Inc`, repaired body** (`Inc` holds the counter's mutex from entry to return; `Write`
reads under the same mutex).  For every number of threads and every schedule, whenever the mutex is free —
whenever a scrape can read the counter, and at every quiescent state — `total` is the number of completed
`Inc()` calls and `value` is its `ceil8`. -/
theorem rounded_concurrent (n : Nat) (sched : List (Fin n)) :
    let s := run true sched (St.init n)
    s.lock = none → s.total = s.done ∧ s.value = ceil8 s.total ∧ RoundedOK s.total s.value := by
  intro s hl
  have hinv : Inv s := inv_run sched _ (inv_init n)
  have hd := hinv.data
  rw [hl] at hd
  exact ⟨hd.2, hd.1, (roundedOK_iff _ _).2 hd.1⟩

/-- Quiescent states of the repaired model are lock-free, hence satisfy the rounding clause. -/
theorem rounded_concurrent_quiescent (n : Nat) (sched : List (Fin n)) :
    let s := run true sched (St.init n)
    Quiescent s → s.total = s.done ∧ RoundedOK s.total s.value := by
  intro s hq
  have hinv : Inv s := inv_run sched _ (inv_init n)
  have := rounded_concurrent n sched (quiescent_lock_free hinv hq)
  exact ⟨this.1, this.2.2⟩

/-- Mutual exclusion in the repaired model: at most the mutex holder is inside `Inc`. -/
theorem repaired_mutex (n : Nat) (sched : List (Fin n)) (t : Fin n) :
    let s := run true sched (St.init n)
    s.pc t ≠ .idle → s.lock = some t :=
  (inv_run sched _ (inv_init n)).excl t

/-- Non-vacuity: three threads interleave in the repaired model (attempts to enter while the mutex is held
stutter) and complete three `Inc()` calls: total 3, published 8. -/
example :
    let s := run true ([0, 1, 2, 0, 0, 0, 0, 0, 1, 2, 1, 1, 1, 1, 2, 2, 2, 2, 2] : List (Fin 3)) (St.init 3)
    Quiescent s ∧ s.total = 3 ∧ s.value = 8 ∧ s.done = 3 := by decide +kernel

/-- **Negative witness (F13), pinned body.** Two concurrent `Inc()` on a fresh counter: both add to
`total`, both read `total > value`, both add 8.  At quiescence total = 2, published 16: the
rounding clause `value < total + 8` is violated. -/
theorem pinned_concurrent_overshoot :
    let s := run false ([0, 1, 0, 1, 0, 1, 0, 1] : List (Fin 2)) (St.init 2)
    Quiescent s ∧ s.total = 2 ∧ s.value = 16 ∧ s.done = 2 ∧ ¬ RoundedOK s.total s.value := by
  decide +kernel

/-- The schedule observed on the real code (DESIGN §6 F13): eight serial `Inc()`, two racing ones,
two more serial ones — total 12, published 24 (the correct figure is 16). -/
theorem pinned_total12_published24 :
    let sched : List (Fin 2) := List.replicate 25 0 ++ [0, 1, 0, 1, 0, 1, 0, 1] ++ List.replicate 6 0
    let s := run false sched (St.init 2)
    Quiescent s ∧ s.total = 12 ∧ s.value = 24 ∧ ceil8 12 = 16 ∧ ¬ RoundedOK s.total s.value := by
  decide +kernel

/-- The pinned body is also wrong *between* its two steps for an observer (`Write` takes no lock):
after the add to `total` and before the add to `value` the published figure is below the truth. -/
theorem pinned_observable_undershoot :
    let s := run false ([0] : List (Fin 1)) (St.init 1)
    s.total = 1 ∧ s.value = 0 ∧ ¬ RoundedOK s.total s.value := by
  decide +kernel

/-- **Unique once per type.** After any sequence of `UpdateCountryStats` calls in one period
(with or without a geoip database): the recorded (type, address) pairs are duplicate-free and are
exactly the pairs that were polled — so an address contributes once per proxy type however often
it polls; unknown types share one set. -/
theorem unique_once_per_type (geo : Bool) (us : List Upd) :
    let s := Stats.run geo us
    s.seen.Nodup
    ∧ (∀ b, (s.typeSet b).Nodup)
    ∧ (∀ b a, a ∈ s.typeSet b ↔ ∃ u ∈ us, bucket u.ty = b ∧ u.addr = a) := by
  intro s
  have hnd : s.seen.Nodup := seen_nodup geo us
  exact ⟨hnd, nodup_typeSet hnd, fun b a => (mem_typeSet s b a).trans (mem_seen geo us b a)⟩

/-- **Totals are sums of per-type set sizes.** `snowflake-ips-total` as computed by `printMetrics`
(`len(unknown) + Σ_known len(proxies[t])`) is the number of recorded (type, address) pairs; with a
geoip database the country counts add up to the same number (each pair counted for one country). -/
theorem totals_are_sums (geo : Bool) (us : List Upd) :
    let s := Stats.run geo us
    s.total = s.seen.length ∧ (geo = true → s.ccs.length = s.total) := by
  intro s
  have h := statsInv_run geo us
  have ht : s.total = s.seen.length := by
    have := sum_class_sizes (·.1) (none :: knownProxyTypes.map some) (by decide) s.seen (fun p hp => by
      obtain ⟨u, _, hb, _⟩ := (mem_seen geo us p.1 p.2).1 hp
      rw [← hb]; exact bucket_mem u.ty)
    simpa only [Stats.total, Stats.typeSet, List.length_map, List.map_cons, List.sum_cons, List.map_map,
      Function.comp_def] using this
  exact ⟨ht, fun hg => by rw [ht]; exact h.ccs hg⟩

/-- NAT figures: the three NAT sets are duplicate-free, contain only addresses that polled with that
NAT class, and (with geoip) every recorded address is in at least one of them. -/
theorem nat_sets_sound (geo : Bool) (us : List Upd) :
    let s := Stats.run geo us
    (s.natR.Nodup ∧ s.natU.Nodup ∧ s.natX.Nodup)
    ∧ (∀ a ∈ s.natR, ∃ u ∈ us, u.addr = a ∧ u.nat = natRestricted)
    ∧ (∀ a ∈ s.natU, ∃ u ∈ us, u.addr = a ∧ u.nat = natUnrestricted)
    ∧ (∀ a ∈ s.natX, ∃ u ∈ us, u.addr = a ∧ u.nat ≠ natRestricted ∧ u.nat ≠ natUnrestricted)
    ∧ (geo = true → ∀ b a, a ∈ s.typeSet b → a ∈ s.natR ∨ a ∈ s.natU ∨ a ∈ s.natX) := by
  intro s
  have h := statsInv_run geo us
  refine ⟨⟨h.natR.1, h.natU.1, h.natX.1⟩, h.natR.2, h.natU.2, h.natX.2, ?_⟩
  intro hg b a ha
  exact h.natCover hg b a ((mem_typeSet s b a).1 ha)

/-- Non-vacuity: the same address polling twice as `standalone`, once as `webext`, once with an
unknown type: three pairs, total 3, one per type. -/
example :
    let st : Str := [115, 116, 97, 110, 100, 97, 108, 111, 110, 101]
    let we : Str := [119, 101, 98, 101, 120, 116]
    let s := Stats.run true [⟨1, st, natRestricted, [67, 65]⟩, ⟨1, st, natUnrestricted, [67, 65]⟩,
      ⟨1, we, [], [67, 65]⟩, ⟨1, [120], natUnrestricted, [67, 65]⟩]
    s.total = 3 ∧ (s.typeSet (some st)).length = 1 ∧ (s.typeSet none).length = 1 ∧ s.ccCount [67, 65] = 3
      ∧ s.natR = [1] ∧ s.natU = [1] ∧ s.natX = [1] := by decide +kernel

/-- **Window selection.** `ClusterCounter{from,to}.Count` includes exactly the chunks with
`from ≤ start ∧ end ≤ to`: `ChunkIncluded` is their number and the merged sketch contains a value
iff one of *those* chunks contains it. -/
theorem window_selects (frm to : Nat) (journal : List Chunk) :
    (count frm to journal).chunkIncluded = (journal.filter (fun c => decide (frm ≤ c.start ∧ c.stop ≤ to))).length
    ∧ ∀ x, x ∈ (countLoop frm to journal ([], 0)).1 ↔ ∃ c ∈ journal, (frm ≤ c.start ∧ c.stop ≤ to) ∧ x ∈ c.vals := by
  obtain ⟨h1, _, h3⟩ := countLoop_spec frm to journal [] 0
  refine ⟨?_, ?_⟩
  · simp only [count, h1, selected, Chunk.inWindow]; omega
  · intro x; rw [h3 x]; simp [Chunk.inWindow]

/-- **Merged count is exact** (exact-sketch abstraction): `Sum` is the length of a duplicate-free
list whose members are exactly the masked values occurring in the chunks inside the window, i.e.
the number of distinct masked values recorded in those chunks. -/
theorem merged_count_exact (frm to : Nat) (journal : List Chunk) :
    ∃ merged : List Nat, merged.Nodup
      ∧ (∀ x, x ∈ merged ↔ ∃ c ∈ journal, c.inWindow frm to ∧ x ∈ c.vals)
      ∧ (count frm to journal).sum = merged.length := by
  obtain ⟨_, h2, h3⟩ := countLoop_spec frm to journal [] 0
  exact ⟨(countLoop frm to journal ([], 0)).1, h2 List.nodup_nil, fun x => by rw [h3 x]; simp, rfl⟩

/-- **The repaired reader is exact or says so.** With the scanner's error checked, `Count` either
returns an error — and then some journal line really exceeds the line limit — or its result is the count
over *all* chunks of the journal: it never silently stops in the middle. -/
theorem reader_exact_or_error (limit frm to : Nat) (lines : List Line) :
    match countChecked limit frm to lines with
    | none => ∃ l ∈ lines, l.len > limit
    | some r => r = count frm to (lines.map (·.chunk)) ∧ ∀ l ∈ lines, l.len ≤ limit := by
  unfold countChecked
  cases h : (scan limit lines).2 with
  | true =>
    simp only [h, if_true]
    exact (scan_err limit lines).1 h
  | false =>
    simp only [h, Bool.false_eq_true, if_false]
    have hnone : ¬ ∃ l ∈ lines, l.len > limit := mt (scan_err limit lines).2 (by simp [h])
    exact ⟨by rw [scan_ok limit lines h], fun l hl => Nat.le_of_not_lt fun hn => hnone ⟨l, hl, hn⟩⟩

/-- **Negative witness (reader), pinned body.** A chunk whose line is longer than the default scanner limit
(64 KiB) makes the pinned reader stop silently: it reports 0 addresses in 0 chunks, and no error, although both
chunks lie inside the window and hold 4 distinct values.  The repaired reader (limit 16 MiB) counts them. -/
theorem pinned_reader_silently_drops :
    let lines : List Line := [⟨⟨0, 1, [1, 2, 3]⟩, 70000⟩, ⟨⟨1, 2, [4]⟩, 100⟩]
    countUnchecked defaultScanLimit 0 10 lines = ⟨0, 0⟩
    ∧ count 0 10 (lines.map (·.chunk)) = ⟨4, 2⟩
    ∧ countChecked readerLimit 0 10 lines = some ⟨4, 2⟩ := by decide +kernel

/-- **Only hashes are stored.** The writer's state and journal are a function of the *masked*
values (and the times) only: running it on addresses with masking function `m` is the same as
running it on the masked values; two address sequences with equal masked values give equal
journals. -/
theorem only_hashes_stored {α : Type} (m : α → Nat) (interval : Nat) (w : Writer) (ops ops' : List (WOp α)) :
    Writer.run m interval w ops = Writer.run id interval w (ops.map (WOp.mask m))
    ∧ (ops.map (WOp.mask m) = ops'.map (WOp.mask m) →
        (Writer.run m interval w ops).journal = (Writer.run m interval w ops').journal) := by
  refine ⟨run_mask m interval ops w, ?_⟩
  intro h
  rw [run_mask m interval ops w, run_mask m interval ops' w, h]

/-- Every chunk the writer emits is a duplicate-free set of masked values (so its sketch count is
the number of distinct addresses added since the previous chunk, up to masking collisions). -/
theorem writer_chunks_are_sets {α : Type} (m : α → Nat) (interval : Nat) (now0 : Nat) (ops : List (WOp α)) :
    ∀ c ∈ (Writer.run m interval ⟨now0, [], []⟩ ops).journal, c.vals.Nodup :=
  (clean_run m interval ops ⟨now0, [], []⟩ ⟨List.nodup_nil, by simp⟩).2

/-- Non-vacuity: three chunks, windows on and around the boundaries. -/
example :
    let w := Writer.run (fun (a : Nat) => a % 100) 10 ⟨0, [], []⟩
      [.add 1 1, .add 2 101, .add 3 2, .flush 5, .add 6 2, .add 20 3, .add 21 4, .flush 30]
    w.journal = [⟨0, 5, [1, 2]⟩, ⟨5, 20, [2]⟩, ⟨20, 30, [3, 4]⟩]
    ∧ count 0 30 w.journal = ⟨4, 3⟩ ∧ count 0 29 w.journal = ⟨2, 2⟩ ∧ count 1 30 w.journal = ⟨3, 2⟩
    ∧ count 5 20 w.journal = ⟨1, 1⟩ ∧ count 6 19 w.journal = ⟨0, 0⟩ := by decide +kernel

end Snowflake.Metrics.C19
