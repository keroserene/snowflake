import Snowflake.Proofs.Peers
/-!
# C15 — client bounds its peers, survives failed rendezvous, always shuts down

`Reachable fx max s`: `s` is reachable in `Model/Peers.lean` under any interleaving of any number of
`Collect` / `connectLoop`, `Pop`, `End` goroutines, peers closing on their own and every outcome of `Catch`,
for the skeleton `fx` and capacity `max`.  Clauses true of the pinned and the repaired skeleton alike are
stated for every `fx`; the three that fail on the pinned tree (F8, F9, F10 of DESIGN.md §6) are proved
for `Fix.all` and refuted for `Fix.pinned` by kernel-checked schedules.
-/
namespace Snowflake.Peers.C15
open Snowflake.TotalMap

/-- **Never more than `max` live peers**: the peers that are held and open number at most `max`. -/
theorem live_peers_le_max (fx : Fix) (max : Nat) (s : St) (h : Reachable fx max s) :
    (live s).length ≤ max :=
  Nat.le_trans (List.length_filter_le _ _) (safe_reachable h).len

/-- … and `live` is all of them: every peer ever constructed that is still open is in the active
list (so it is counted against `max` and will be closed by `End`). -/
theorem every_live_peer_is_held (fx : Fix) (max : Nat) (s : St) (h : Reachable fx max s) (p : Nat)
    (hp : p < s.next) (ho : s.closedP p = false) : p ∈ live s := by
  have := (safe_reachable h).tracked p hp ho
  simp [live, this, ho]

/-- While a `Catch` is in flight there is room for its result. -/
theorem catch_only_below_max (fx : Fix) (max : Nat) (s : St) (h : Reachable fx max s) (c : Nat)
    (hc : s.col c = .catching) : s.active.length < max :=
  (safe_reachable h).room c hc

/-- **Pop never hands over a closed peer**: every peer returned by `Pop` was open at the
hand-over check (`handed` logs the peer with its `closed` flag at that instant). -/
theorem pop_never_returns_closed_at_handover (fx : Fix) (max : Nat) (s : St) (h : Reachable fx max s) :
    ∀ x ∈ s.handed, x.2 = false :=
  (safe_reachable h).handed

/-- **End returns** (repaired skeleton).  For every `End` goroutine `e` that has been called and has
not returned, and every outcome `o` of the `Catch` that may be in flight, the schedule `endSched s e o`
is enabled and lets `e` return.  It has at most 6 labels, no `Pop` label and at most one `Catch`
return: `End` waits at most for the rendezvous attempt already in flight, and nobody has to drain the
hand-over channel. -/
theorem end_returns (max : Nat) (s : St) (h : Reachable Fix.all max s) (e : Nat) (o : CatchEnv)
    (hp : (s.ends e).pending = true) :
    (∃ s', run Fix.all max s (endSched s e o) = some s' ∧ s'.ends e = .done) ∧
    (endSched s e o).length ≤ 6 ∧ (∀ l ∈ endSched s e o, l.isPop = false) ∧
    ((endSched s e o).filter Lab.isCatch).length ≤ 1 :=
  ⟨end_sched_completes e o (safe_reachable h) (fixed_reachable rfl rfl h) hp, end_sched_shape s e o⟩

/-- **End closes everything** (any fix level): once some `End` has returned, every peer ever
constructed is closed, the active list is empty and the hand-over channel is closed. -/
theorem end_closes_all (fx : Fix) (max : Nat) (s : St) (h : Reachable fx max s) (e : Nat)
    (hd : s.ends e = .done) :
    (∀ p, p < s.next → s.closedP p = true) ∧ s.active = [] ∧ s.chanClosed = true ∧ s.melt = true := by
  have hs := safe_reachable h
  have hdone := hs.endsDone e hd
  exact ⟨hs.doneClosed hdone, hs.doneActive hdone, hs.doneChan hdone, hs.doneMelt hdone⟩

/-- **No rendezvous after End** (any fix level): once some `End` has returned no `Catch` is in
flight, no peer is waiting to be handed over … -/
theorem no_collect_after_end (fx : Fix) (max : Nat) (s : St) (h : Reachable fx max s) (e : Nat)
    (hd : s.ends e = .done) (c : Nat) : s.col c ≠ .catching ∧ ∀ p, s.col c ≠ .sending p := by
  have hs := safe_reachable h
  have hb := hs.doneBusy (hs.endsDone e hd) c
  constructor
  · intro hc; simp [hc, CPC.busy] at hb
  · intro p hc; simp [hc, CPC.busy] at hb

/-- … and no label starts one: the number of `Catch` calls never changes again. -/
theorem no_catch_started_after_end (fx : Fix) (max : Nat) (s s' : St) (h : Reachable fx max s) (e : Nat)
    (hd : s.ends e = .done) (l : Lab) (hs : step fx max s l = some s') : s'.catches = s.catches := by
  have hsafe := safe_reachable h
  have hm := hsafe.doneMelt (hsafe.endsDone e hd)
  -- the only rule that counts a `Catch` needs `melt` open
  cases Step.of_step hs with
  | cCheckRoom c _ hm' => simp [hm] at hm'
  | _ => rfl

/-- The collection loop can stop as soon as `melt` is closed: a `connectLoop` goroutine whose
`Collect` has returned has its `Melted()` arm enabled. -/
theorem connect_loop_can_stop (fx : Fix) (max : Nat) (s : St) (h : Reachable fx max s) (e c : Nat)
    (hd : s.ends e = .done) (r : Res) (hc : s.col c = .ret r) :
    ∃ s', step fx max s (.lMelted c) = some s' ∧ s'.col c = .stopped := by
  have hsafe := safe_reachable h
  have hm := hsafe.doneMelt (hsafe.endsDone e hd)
  simp [step, hc, hm]

/-- **No panic** in the repaired skeleton, whatever the outcomes of peer construction. -/
theorem no_panic (max : Nat) (s : St) (h : Reachable Fix.all max s) : s.panic = none :=
  (fixed_reachable rfl rfl h).noPanic

/-- **End is idempotent** (repaired skeleton): after one `End` has returned, a further `End` /
`Close` returns at once, leaves the closed peers and the channel as they are, and does not panic. -/
theorem end_idempotent (max : Nat) (s : St) (h : Reachable Fix.all max s) (e1 e2 : Nat)
    (hd : s.ends e1 = .done) (ha : s.ends e2 = .absent) :
    ∃ s', step Fix.all max s (.eCall e2) = some s' ∧ s'.ends e2 = .done ∧ s'.panic = none ∧
      s'.closedP = s.closedP ∧ s'.chanClosed = s.chanClosed := by
  have hi := fixed_reachable rfl rfl h
  have ho := hi.doneOnce ((safe_reachable h).endsDone e1 hd)
  simp [step, ha, ho, Fix.all, hi.noPanic]

/-- **A failed `Catch` is an error, never a panic** (repaired `connect`): every failing step of peer
construction — unusable ICE configuration included — yields an error value. -/
theorem failed_catch_is_error (e : CatchEnv) (he : e ≠ .ok) : connect true e = .err := by
  simp [connect_fixed, he]

/-- … and the collector then returns the error with the lock released, so the loop continues. -/
theorem failed_catch_releases_lock (max : Nat) (s : St) (c : Nat) (e : CatchEnv) (he : e ≠ .ok)
    (hc : s.col c = .catching) :
    ∃ s', step Fix.all max s (.cCatch c e) = some s' ∧ s'.col c = .ret .catchErr ∧ s'.lock = none ∧
      s'.panic = s.panic := by
  simp [step, hc, Fix.all, failed_catch_is_error e he]

/-- A run of the repaired skeleton in which peers are collected up to `max = 2`, one is popped,
a spare goes stale, `End` is called while a `Catch` is in flight, and everything ends closed. -/
example :
    (run Fix.all 2 init [.cCall 0, .cLock 0, .cCheck 0, .cCatch 0 .ok, .cSend 0, .pCall 0, .pRecv 0, .pCheck 0,
        .lTimer 0, .cLock 0, .cCheck 0, .cCatch 0 .ok, .cSend 0, .peerClose 1,
        .lTimer 0, .cLock 0, .cCheck 0, .eCall 0, .eMelt 0, .cCatch 0 .ok, .cMeltArm 0, .eLock 0, .eCrit 0,
        .eCall 1, .lMelted 0]).map
      (fun s => s.pop 0 == .got 0 && s.ends 0 == .done && s.ends 1 == .done && s.col 0 == .stopped &&
        s.closedP 0 && s.closedP 1 && s.closedP 2 && s.handed == [(0, false)] && s.panic == none)
    = some true := by decide +kernel

/-- The hypotheses of `end_returns` are satisfiable. -/
example : ∃ s, Reachable Fix.all 1 s ∧ (s.ends 0).pending = true :=
  ⟨_, Reach.step (.eCall 0) Reach.init rfl, rfl⟩

/-! ## The pinned skeleton: three kernel-checked refutations -/

/-- **F8** `End(); End()` on the pinned skeleton: the second `close(p.melt)` panics. -/
theorem pinned_end_twice_panics :
    (run Fix.pinned 1 init [.eCall 0, .eMelt 0, .eLock 0, .eCrit 0, .eCall 1, .eMelt 1]).map (·.panic)
      = some (some .closeClosedMelt) := by decide +kernel

/-- The same schedule with the `Once` repair: the second call returns, no panic. -/
theorem fixed_end_twice_ok :
    (run Fix.all 1 init [.eCall 0, .eMelt 0, .eLock 0, .eCrit 0, .eCall 1]).map (fun s => s.panic == none && s.ends 1 == .done)
      = some true := by decide +kernel

theorem pinned_no_panic_fails : ¬ ∀ s, Reachable Fix.pinned 1 s → s.panic = none := by
  intro h
  obtain ⟨s, hr, hp⟩ := Reach.of_runL_map pinned_end_twice_panics
  simp [h s hr] at hp

/-- The F9 schedule: `max = 2`; peer 0 is collected and popped (in use); two spares are collected
and go stale; the next `Collect` purges them from the active list, catches peer 3 and blocks on the
full hand-over channel while holding `collectLock`; then `End` is called. -/
def f9Schedule : List Lab :=
  [.cCall 0, .cLock 0, .cCheck 0, .cCatch 0 .ok, .cSend 0, .pCall 0, .pRecv 0, .pCheck 0,
   .lTimer 0, .cLock 0, .cCheck 0, .cCatch 0 .ok, .cSend 0, .peerClose 1,
   .lTimer 0, .cLock 0, .cCheck 0, .cCatch 0 .ok, .cSend 0, .peerClose 2,
   .lTimer 0, .cLock 0, .cCheck 0, .cCatch 0 .ok, .eCall 0, .eMelt 0]

/-- Decidable rendering of `F9Stuck 2 s 0 0` plus "only one live spare beside the peer in use". -/
def f9Check (s : St) : Bool :=
  s.lock == some (.col 0) && s.col 0 == .sending 3 && s.chan == [1, 2] && !s.chanClosed &&
  s.ends 0 == .wantLock && s.melt && (live s == [0, 3])

theorem pinned_f9_reaches_stuck : (run Fix.pinned 2 init f9Schedule).map f9Check = some true := by
  decide +kernel

/-- **F9** `End` is blocked for good on the pinned skeleton: there is a reachable state (2 live peers
out of `max = 2`, `End` called) from which **no** continuation without a channel receive by `Pop`,
however long, lets `End` return. -/
theorem pinned_end_blocked_forever :
    ∃ s, Reachable Fix.pinned 2 s ∧ (s.ends 0).pending = true ∧ (live s).length ≤ 2 ∧
      ∀ ls s', (∀ l ∈ ls, l.isRecv = false) → run Fix.pinned 2 s ls = some s' → s'.ends 0 ≠ .done := by
  obtain ⟨s, hreach, hw⟩ := Reach.of_runL_map pinned_f9_reaches_stuck
  simp [f9Check] at hw
  have hstuck : F9Stuck 2 s 0 0 := by constructor <;> simp [hw, CPC.busy]
  refine ⟨s, hreach, by simp [hw, EPC.pending], by simp [hw], fun ls s' hall hr hdone => ?_⟩
  simp [(hstuck.run rfl hreach ls hall hr).waiting] at hdone

/-- There `End` has no `Pop`-free schedule at all, let alone `endSched`. -/
theorem pinned_end_returns_fails :
    ¬ ∀ s, Reachable Fix.pinned 2 s → ∀ e, (s.ends e).pending = true →
        ∃ ls s', (∀ l ∈ ls, l.isPop = false) ∧ run Fix.pinned 2 s ls = some s' ∧ s'.ends e = .done := by
  intro h
  obtain ⟨s, hr, hp, _, hno⟩ := pinned_end_blocked_forever
  obtain ⟨ls, s', hall, hrun, hd⟩ := h s hr 0 hp
  exact hno ls s' (fun l hl => Lab.isRecv_eq_false_of_isPop_eq_false (hall l hl)) hrun hd

/-- With the `select` repair the same prefix continues to a returned `End`, without any `Pop`. -/
theorem fixed_f9_end_returns :
    (run Fix.all 2 init (f9Schedule ++ [.cMeltArm 0, .eLock 0, .eCrit 0])).map
      (fun s => s.ends 0 == .done && s.col 0 == .ret .melted && s.closedP 0 && s.closedP 3 && s.panic == none)
    = some true := by decide +kernel

/-- **F10** an unusable ICE configuration on the pinned skeleton: `NewPeerConnection` fails, `c.pc`
stays nil, `connect` dereferences it before looking at the error. -/
theorem pinned_bad_ice_panics :
    connect false .pcFail = .panic ∧
    (run Fix.pinned 1 init [.cCall 0, .cLock 0, .cCheck 0, .cCatch 0 .pcFail]).map (·.panic)
      = some (some .nilDeref) := by decide +kernel

/-- With the error check first it is an ordinary error and the lock is released. -/
theorem fixed_bad_ice_is_error :
    (run Fix.all 1 init [.cCall 0, .cLock 0, .cCheck 0, .cCatch 0 .pcFail]).map
      (fun s => s.panic == none && s.col 0 == .ret .catchErr && s.lock == none) = some true := by decide +kernel

theorem pinned_failed_catch_is_error_fails : ¬ ∀ e, e ≠ CatchEnv.ok → connect false e = .err := by
  intro h; have := h .pcFail (by decide); simp [connect, prepare] at this

/-- Each repair is needed on its own: with only the other two applied the defect is still there. -/
theorem each_fix_needed :
    (run ⟨false, true, true⟩ 1 init [.eCall 0, .eMelt 0, .eLock 0, .eCrit 0, .eCall 1, .eMelt 1]).map (·.panic)
      = some (some .closeClosedMelt)
    ∧ (run ⟨true, false, true⟩ 2 init f9Schedule).map f9Check = some true
    ∧ connect false .pcFail = .panic := by decide +kernel

end Snowflake.Peers.C15
