import Snowflake.Proofs.Json
import Snowflake.Model.SessionDesc
/-!
# C13 — untrusted session descriptions cannot crash client or proxy

About `Snowflake.SessionDesc`, the model of `SerializeSessionDescription` / `DeserializeSessionDescription`
in `common/util/util.go`.  Not covered: extracting a peer address from SDP text (`remoteIPFromSDP` in
`proxy/lib/webrtcconn.go`).
-/
namespace Snowflake.SessionDesc.C13
open Snowflake Snowflake.Json

theorem unmarshal_serialize (t : SDPType) (sdp : List (Option Char)) :
    unmarshalMap (serialize t sdp)
      = some [("type".toList, .str t.name), ("sdp".toList, .str (sdp.map (·.getD Utf8.replacement)))] := by
  unfold unmarshalMap serialize
  rw [parse_marshalObj]
  simp [keptFields, toJsonKV, MVal.toJson, anyOverflowKV, Json.hasOverflow, getD_ofText]

/-- For an SDP given as any Go string: each offending byte comes back as U+FFFD. -/
theorem roundtrip_items (fixed : Bool) (t : SDPType) (ht : t ≠ .other) (sdp : List (Option Char)) :
    deserialize fixed (serialize t sdp) = .ok t (sdp.map (·.getD Utf8.replacement)) := by
  unfold deserialize
  rw [unmarshal_serialize]
  cases t <;> first | exact absurd rfl ht | rfl

/-- **Round trip**, for each of the four SDP types and every SDP text, on the pinned and on the repaired
function alike. -/
theorem sdp_roundtrip (fixed : Bool) (t : SDPType) (ht : t ≠ .other) (sdp : Text) :
    deserialize fixed (serialize t (ofText sdp)) = .ok t sdp := by
  rw [roundtrip_items fixed t ht, getD_ofText]

/-- **Distinct descriptions have distinct serialisations** (corollary of `sdp_roundtrip`). -/
theorem serialize_injective (t u : SDPType) (ht : t ≠ .other) (hu : u ≠ .other) (a b : Text)
    (h : serialize t (ofText a) = serialize u (ofText b)) : t = u ∧ a = b := by
  have h1 := sdp_roundtrip true t ht a
  have h2 := sdp_roundtrip true u hu b
  rw [h, h2] at h1
  injection h1 with e1 e2
  exact ⟨e1.symm, e2.symm⟩

/-- The round trip on raw bytes, through the `[]byte`/`string` conversions. -/
theorem sdp_roundtrip_bytes (fixed : Bool) (t : SDPType) (ht : t ≠ .other) (sdp : Text) :
    deserialize fixed (Utf8.decodeLossy (Utf8.encode
        (serialize t (Utf8.decodeItems (Utf8.encode sdp))))) = .ok t sdp := by
  rw [Utf8.decodeLossy_encode, Utf8.decodeItems_encode]
  exact sdp_roundtrip fixed t ht sdp

/-- A type that is none of the four defined values is written as "unknown" and rejected when read back:
an error, not a panic. -/
theorem other_type_rejected (fixed : Bool) (sdp : List (Option Char)) :
    deserialize fixed (serialize .other sdp) = .err := by
  unfold deserialize
  rw [unmarshal_serialize]
  rfl

/-- what the comma-ok form of the type assertions changes: a panic becomes an error, nothing else -/
def repaired : Outcome → Outcome
  | .panic => .err
  | o => o

theorem construct_repaired (tv sv : Json) : construct true tv sv = repaired (construct false tv sv) := by
  unfold construct
  cases tv <;> try rfl
  simp only [assertString]
  split
  · rfl
  · cases sv <;> rfl

/-- The two functions differ only in `construct`, where the type assertions are. -/
theorem deserialize_repaired (msg : Text) : deserialize true msg = repaired (deserialize false msg) := by
  unfold deserialize
  split
  · rfl
  · split
    · rfl
    · split
      · rfl
      · exact construct_repaired _ _

theorem repaired_ne_panic (o : Outcome) : repaired o ≠ .panic := by
  cases o <;> nofun

/-- **Totality (repaired function)**: for every text (any JSON value at top level, members of any JSON
type, missing or duplicated members, non-JSON) deserialisation never panics. -/
theorem deserialize_total (msg : Text) : deserialize true msg ≠ .panic := by
  rw [deserialize_repaired]; exact repaired_ne_panic _

/-- The same for arbitrary bytes (invalid UTF-8 included). -/
theorem deserialize_total_bytes (msg : Utf8.Bytes) : deserialize true (Utf8.decodeLossy msg) ≠ .panic :=
  deserialize_total _

/-- The repair changes nothing but the panics. -/
theorem repair_conservative (msg : Text) (h : deserialize false msg ≠ .panic) :
    deserialize true msg = deserialize false msg := by
  rw [deserialize_repaired]
  cases hd : deserialize false msg with
  | panic => exact absurd hd h
  | _ => rfl

theorem repair_turns_panic_into_error (msg : Text) (h : deserialize false msg = .panic) :
    deserialize true msg = .err := by
  rw [deserialize_repaired, h]; rfl

example : deserialize true "{\"type\":\"offer\",\"sdp\":\"v=0\\r\\n\"}".toList = .ok .offer "v=0\r\n".toList := by
  decide +kernel
example : serialize .answer (ofText "a<b\n".toList) = "{\"type\":\"answer\",\"sdp\":\"a\\u003cb\\n\"}".toList := by
  decide +kernel
example : deserialize true "{\"type\":\"Offer\",\"sdp\":\"\"}".toList = .err := by decide +kernel
example : deserialize true " { \"sdp\" : \"x\", \"type\":\"offer\", \"type\":\"rollback\" } ".toList = .ok .rollback "x".toList := by
  decide +kernel
example : deserialize true "{\"type\":\"offer\",\"sdp\":\"\",\"x\":1e999}".toList = .err := by decide +kernel
example : deserialize true "null".toList = .err := by decide +kernel

/-! ### The pinned function is not total (defect F6) -/

theorem pinned_panics_type_number : deserialize false "{\"type\":1,\"sdp\":\"\"}".toList = .panic := by
  decide +kernel

theorem pinned_panics_sdp_number : deserialize false "{\"type\":\"offer\",\"sdp\":1}".toList = .panic := by
  decide +kernel

theorem pinned_panics_null_members : deserialize false "{\"type\":null,\"sdp\":null}".toList = .panic := by
  decide +kernel

theorem pinned_not_total : ¬ ∀ msg, deserialize false msg ≠ .panic :=
  fun h => h _ pinned_panics_type_number

/-- An unknown type name is an error before the `sdp` assertion is reached: no panic. -/
example : deserialize false "{\"type\":\"x\",\"sdp\":1}".toList = .err := by decide +kernel

end Snowflake.SessionDesc.C13
