import Snowflake.Proofs.BrokerInv
/-!
# C03 — matches respect NAT compatibility, availability and load order

Theorems about the broker model `Snowflake.Model.Broker` (repaired skeleton).  `waiting st u p`:
poll `p` waits in heap `u` (`true` = the heap of unrestricted proxies).  A proxy is pushed on heap
`pushU nat` (`AddSnowflake`), a client of NAT type `n` is served from heap `wantU n`
(`matchSnowflake`); both functions are tied to the source in `Tie/Broker.lean`.
-/
namespace Snowflake.Broker.C03
open Snowflake.Broker

variable {bridge : Nat → Option Nat} {st st' : St}

/-- **NAT compatibility.** In every reachable state, if client `c` was matched with proxy `p` then:
a restricted or unknown client got a proxy that reported unrestricted; an unrestricted client got a
proxy from the restricted/unknown pool. -/
theorem match_compatible (hr : Reachable bridge st) (c p : Nat) (h : (st.ss p).popBy = some c) :
    ((st.cs c).nat ≠ .unrestricted → (st.ss p).nat = .unrestricted)
    ∧ ((st.cs c).nat = .unrestricted → (st.ss p).nat ≠ .unrestricted) := by
  have hi := inv_reachable hr
  -- the heap the client was served from is the heap the proxy was pushed on
  have hu : wantU (st.cs c).nat = pushU (st.ss p).nat := by
    rw [← (hi.sess p).heapU ((hi.sess p).popped (Option.isSome_of_eq_some h)).2]
    exact (hi.link.popBy c p h).2.1
  rw [wantU, pushU, Bool.eq_iff_iff, bne_iff_ne, beq_iff_eq] at hu
  exact ⟨hu.mp, fun hn hm => hu.mpr hm hn⟩

/-- Every poll that waits in a heap is in the enumeration the guards quantify over. -/
theorem waiting_mem (hr : Reachable bridge st) (u : Bool) (q : Nat) (h : waiting st u q = true) :
    q ∈ st.polls := by
  have hi := inv_reachable hr
  apply hi.list.mem
  intro ha
  simp [waiting, ((hi.sess q).absent ha).2.1] at h

/-- **Refusal only when the eligible pool is empty.** Whenever the broker answers a client with "no
proxies" (`cDeny` fires), no proxy at all is waiting in the pool the client is eligible for. -/
theorem denied_only_if_pool_empty (hr : Reachable bridge st) (c : Nat)
    (hs : step true st (.cDeny c) = some st') :
    ∀ q, waiting st (wantU (st.cs c).nat) q = false := by
  cases Step.of_step hs with
  | cDeny _ _ _ hnone =>
    refine fun q => Bool.eq_false_iff.mpr fun hw => ?_
    have := List.all_eq_true.mp hnone q (waiting_mem hr _ q hw)
    simp [hw] at this

/-- **Load order.** Whenever a client is matched (`cMatch c p` fires), `p` waits in the client's
eligible pool and no proxy waiting in that pool reported fewer clients. -/
theorem match_is_min_clients (hr : Reachable bridge st) (c p : Nat)
    (hs : step true st (.cMatch c p) = some st') :
    waiting st (wantU (st.cs c).nat) p = true
    ∧ ∀ q, waiting st (wantU (st.cs c).nat) q = true → (st.ss p).clients ≤ (st.ss q).clients := by
  cases Step.of_step hs with
  | cMatch _ _ _ _ hwt hmin =>
    refine ⟨hwt, fun q hw => ?_⟩
    simpa [hw] using List.all_eq_true.mp hmin q (waiting_mem hr _ q hw)

theorem exists_min {L : List Nat} (f : Nat → Nat) {P : Nat → Bool} {q : Nat} (hq : q ∈ L)
    (hP : P q = true) :
    ∃ p ∈ L, P p = true ∧ ∀ r ∈ L, P r = true → f p ≤ f r := by
  have hne := List.ne_nil_of_mem (List.mem_filter.mpr ⟨hq, hP⟩)
  obtain ⟨hp, hPp⟩ := List.mem_filter.mp (List.minOn_mem (f := f) (h := hne))
  exact ⟨_, hp, hPp, fun r hm hPr => List.apply_minOn_le_of_mem (List.mem_filter.mpr ⟨hm, hPr⟩)⟩

/-- **Availability.** A validated client at `matchSnowflake` is either matched (with a minimal
waiting proxy of its eligible pool, which exists whenever that pool is non-empty) or denied (which
is possible exactly when the pool is empty): the two outcomes are exhaustive and exclusive. -/
theorem match_or_deny (hr : Reachable bridge st) (c : Nat) (hpc : (st.cs c).pc = .start)
    (hb : (st.bridge (st.cs c).fp).isSome) :
    ((∃ q, waiting st (wantU (st.cs c).nat) q = true) →
        ∃ p, (step true st (.cMatch c p)).isSome ∧ step true st (.cDeny c) = none)
    ∧ ((∀ q, waiting st (wantU (st.cs c).nat) q = false) →
        (step true st (.cDeny c)).isSome ∧ ∀ p, step true st (.cMatch c p) = none) := by
  constructor
  · rintro ⟨q, hq⟩
    -- a waiting poll with the fewest clients passes `cMatch`'s guard
    obtain ⟨p, -, hp, hmin⟩ := exists_min (fun r => (st.ss r).clients)
      (waiting_mem hr _ q hq) hq
    refine ⟨p, Option.isSome_of_eq_some (Step.step_eq (.cMatch c p hpc hb hp ?_)), ?_⟩
    · refine List.all_eq_true.mpr fun r hm => ?_
      cases hw : waiting st (wantU (st.cs c).nat) r with
      | false => rfl
      | true => exact decide_eq_true (hmin r hm hw)
    · -- `cDeny` needs an empty pool, but `q` waits
      refine Option.eq_none_iff_forall_ne_some.mpr fun st' hs => ?_
      rw [denied_only_if_pool_empty hr c hs q] at hq
      cases hq
  · intro hnone
    refine ⟨Option.isSome_of_eq_some (Step.step_eq (.cDeny c hpc hb ?_)), fun p => ?_⟩
    · refine List.all_eq_true.mpr fun r _ => ?_
      rw [hnone r]
      rfl
    · -- `cMatch c p` needs `p` waiting
      refine Option.eq_none_iff_forall_ne_some.mpr fun st' hs => ?_
      have hw := (match_is_min_clients hr c p hs).1
      rw [hnone p] at hw
      cases hw

end Snowflake.Broker.C03
