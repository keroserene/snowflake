import Snowflake.Proofs.EncapFrames
/-!
# C09 — packet framing round-trips under any read fragmentation

Property theorems about `Snowflake.Model.Encap` (the model of
`/repo/common/encapsulation/encapsulation.go`).
-/
namespace Snowflake.Encap.C09

/-- **Round trip.** Any sequence of data chunks (each shorter than 2^20) and paddings decodes to
exactly the data chunks, in order, ending in a clean EOF; padding is invisible. -/
theorem roundtrip (items : List Item) (hok : ∀ i ∈ items, i.ok) :
    decodeAll (encodeItems items) = (dataOf items, .eof) :=
  frames_decode (frames_encodeItems items hok)

/-- **Fragmentation independence.** Reading through *any* contract-respecting `io.Reader`
(any script of short reads, zero-length reads and data-with-EOF reads, of any length) yields
the same chunks and the same final status as decoding the concatenated bytes. -/
theorem fragmentation_independent (data : Bytes) (sc : Script) (fuel : Nat) (hf : data.length < fuel) :
    readAll true fuel ⟨data, sc⟩ = decodeAll data :=
  readAll_decode fuel data sc hf

theorem roundtrip_fragmented (items : List Item) (hok : ∀ i ∈ items, i.ok) (sc : Script) :
    readAll true ((encodeItems items).length + 1) ⟨encodeItems items, sc⟩ = (dataOf items, .eof) := by
  rw [fragmentation_independent _ _ _ (Nat.lt_succ_self _), roundtrip items hok]

/-- **No two chunk sequences share an encoding.**  If two item sequences produce the same bytes, they carry
the same data chunks in the same order: a receiver can never be made to read different packets from the bytes
the sender meant. -/
theorem encoding_unambiguous (a b : List Item) (ha : ∀ i ∈ a, i.ok) (hb : ∀ i ∈ b, i.ok)
    (h : encodeItems a = encodeItems b) : dataOf a = dataOf b := by
  have h1 := roundtrip a ha
  have h2 := roundtrip b hb
  rw [h, h2] at h1
  exact (Prod.mk.inj h1).1.symm

theorem dataOf_append (a b : List Item) : dataOf (a ++ b) = dataOf a ++ dataOf b := by
  induction a with
  | nil => rfl
  | cons x xs ih => cases x <;> simp [dataOf, ih]

/-- **Streams concatenate.**  Writing one item sequence after another on the same stream is the encoding of the
concatenated sequence, and it decodes to the first sequence's chunks followed by the second's: framing carries
no state from one chunk to the next. -/
theorem streams_concatenate (a b : List Item) (ha : ∀ i ∈ a, i.ok) (hb : ∀ i ∈ b, i.ok) :
    encodeItems (a ++ b) = encodeItems a ++ encodeItems b ∧
    decodeAll (encodeItems a ++ encodeItems b) = (dataOf a ++ dataOf b, .eof) :=
  ⟨encodeItems_append a b, frames_decode ((frames_encodeItems a ha).append (frames_encodeItems b hb))⟩

/-- Different item sequences can carry the same data (padding placement): `encoding_unambiguous` concludes
about the data only. -/
example : dataOf [Item.pad 3, .data [1], .pad 0] = dataOf [Item.data [1], .pad 5] := by decide

/-- **Padding is exact and invisible**: `WritePadding n` occupies exactly `n` bytes and decodes
to no data. -/
theorem padding_exact (n : Nat) :
    (padding n).length = n ∧ decodeAll (padding n) = ([], .eof) :=
  ⟨padding_length n, frames_decode (frames_padding n)⟩

/-- **Size budget.** For every budget `n > 0`, a chunk of `MaxDataForSize n` bytes is encodable and
its encoding (prefix included) is at most `n` bytes long. -/
theorem maxData_fits (n : Nat) (hn : 0 < n) (d : Bytes) (hd : d.length = maxDataForSize n) :
    ∃ e, encodeData d = some e ∧ e.length ≤ n := by
  rw [maxDataForSize_eq] at hd
  have hlt : d.length < 1048576 := by split at hd <;> omega
  obtain ⟨p, hp, hpl⟩ := dataPrefix_some hlt
  refine ⟨p ++ d, by simp [encodeData, hp], ?_⟩
  simp only [List.length_append, hpl]
  have h1 := prefixLen_cases n
  have h2 := prefixLen_cases d.length
  split at hd <;> omega

/-- A larger budget never yields a smaller chunk size (flat for one step where the prefix grows). -/
theorem maxData_mono (a b : Nat) (h : a ≤ b) : maxDataForSize a ≤ maxDataForSize b := by
  rw [maxDataForSize_eq, maxDataForSize_eq]
  have h1 := prefixLen_cases a
  have h2 := prefixLen_cases b
  split <;> split <;> omega

/-- The helper's answer is always an encodable chunk length (below 2^20) and, for a positive budget, leaves room
for the prefix (strictly below the budget). -/
theorem maxData_bounded (n : Nat) : maxDataForSize n < 1048576 ∧ (0 < n → maxDataForSize n < n) := by
  rw [maxDataForSize_eq]
  have h1 := prefixLen_cases n
  split <;> omega

/-- The helper is within one byte of optimal: no chunk more than one byte longer fits. -/
theorem maxData_within_one (n : Nat) (hlt : n < 1048576) (d e : Bytes)
    (he : encodeData d = some e) (hfit : e.length ≤ n) : d.length ≤ maxDataForSize n + 1 := by
  rw [maxDataForSize_eq]
  have hd : d.length < 1048576 :=
    Nat.lt_of_not_le fun h => by simp [encodeData, dataPrefix_none h] at he
  obtain ⟨p, hp, hpl⟩ := dataPrefix_some hd
  simp only [encodeData, hp, Option.some.injEq] at he
  subst he
  simp only [List.length_append, hpl] at hfit
  simp only [hlt, if_true]
  have h1 := prefixLen_cases n
  have h2 := prefixLen_cases d.length
  omega

/-- The hypotheses of `roundtrip` are met by a non-trivial sequence. -/
example : ∀ i ∈ [Item.data [1, 2, 3], .pad 70, .data [], .pad 0, .data [9]], i.ok := by
  intro i hi; simp at hi; rcases hi with rfl | rfl | rfl | rfl | rfl <;> simp [Item.ok]

/-- F5 negative witness: with the pinned prefix reads (`r.Read` whose count is ignored) a
`(0, nil)` read between the two prefix bytes of the stream `c0 00` (one empty data chunk) re-uses
the stale byte; the reader reports `unexpectedEOF` instead of the empty chunk. -/
theorem pinned_zero_read_misparses :
    readAll false 8 ⟨[0xc0, 0x00], [(1, false), (0, false)]⟩ = ([], .unexpectedEOF)
    ∧ decodeAll [0xc0, 0x00] = ([[]], .eof) := by decide

/-- F5 negative witness: a final byte delivered together with `io.EOF` is dropped by the pinned
code: the stream `80` (one empty data chunk) reads as a clean EOF with no chunk. -/
theorem pinned_data_with_eof_loses_chunk :
    readAll false 8 ⟨[0x80], [(1, true)]⟩ = ([], .eof)
    ∧ decodeAll [0x80] = ([[]], .eof) := by decide

/-- The same scripts through the repaired reader agree with the pure decoder (instances of
`fragmentation_independent`, evaluated). -/
example : readAll true 8 ⟨[0xc0, 0x00], [(1, false), (0, false)]⟩ = ([[]], .eof)
    ∧ readAll true 8 ⟨[0x80], [(1, true)]⟩ = ([[]], .eof) := by decide

end Snowflake.Encap.C09
