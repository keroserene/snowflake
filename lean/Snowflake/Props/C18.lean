import Snowflake.Model.ClientAddr
import Snowflake.Proofs.IP
import Snowflake.Proofs.ClientAddr
/-!
# C18 — the bridge is told the right client address or none

Theorems about `Model/ClientAddr.lean` (`clientAddr`, the ClientID → address ring map) and `Base/IP.lean`
(Go's `net.ParseIP` / `net.IP.String`).  Tied to the source by `Tie/ServerLib.lean` (statement listings,
capacity constant) and by `harness/c18_serverlib_test.go`.  The attribution clause of DESIGN §5.18 is
`Props/C18Attr.lean`.
-/
namespace Snowflake.ClientAddr.C18
open Snowflake.GoStr Snowflake.IP

theorem joinHostPort_ne_nil (h p : Str) : joinHostPort h p ≠ [] := by
  unfold joinHostPort; split <;> simp

/-- The test for the empty parameter is subsumed by the parse. -/
theorem clientAddr_eq (s : Str) :
    clientAddr s = match parseIP s with
      | none => []
      | some ip => if isUnspecified ip then [] else joinHostPort (render ip) [49] := by
  unfold clientAddr
  split
  · subst_vars; rfl
  · rfl

/-- **Sanitiser, both directions.**  The result is empty *iff* the parameter is empty, does not parse
as an IP address, or parses to an unspecified address (`0.0.0.0`, `::ffff:0.0.0.0`, `::`); otherwise
it is `JoinHostPort(ip.String(), "1")` for the address `ip` that `net.ParseIP` returned. -/
theorem clientAddr_spec (s : Str) :
    (clientAddr s = [] ↔ s = [] ∨ parseIP s = none ∨ ∃ ip, parseIP s = some ip ∧ isUnspecified ip = true)
    ∧ (∀ ip, s ≠ [] → parseIP s = some ip → isUnspecified ip = false →
        clientAddr s = joinHostPort (render ip) [49]) := by
  rw [clientAddr_eq]
  cases hp : parseIP s with
  | none => simp
  | some ip =>
    have : s ≠ [] := by rintro rfl; cases hp
    cases hu : isUnspecified ip <;> simp [hu, this, joinHostPort_ne_nil]

/-- **Go's text of an address parses back to the same address**, for every 16-byte address (the form
`net.ParseIP` returns), whichever zero run `appendTo6` compresses. -/
theorem render_parses_back (ip : List UInt8) (h : ip.length = 16) : parseIP (render ip) = some ip :=
  parseIP_render_16 ip h

theorem render_parses_back_v4 (ip : List UInt8) (h : ip.length = 4) :
    parseIP (render ip) = some (v4InV6Prefix ++ ip) :=
  parseIP_render_4 ip h

theorem parseIP_len16 (s : Str) (ip : List UInt8) (h : parseIP s = some ip) : ip.length = 16 :=
  parseIP_length h

/-- `IsUnspecified` on a 16-byte address: exactly `::ffff:0.0.0.0` and `::`. -/
theorem isUnspecified_iff (ip : List UInt8) (h : ip.length = 16) :
    isUnspecified ip = true ↔ ip = ipv4zero ∨ ip = ipv6unspecified := by
  have h1 : ipv4zero.length = 16 := rfl
  have h2 : ipv6unspecified.length = 16 := rfl
  simp [isUnspecified, equal, h, h1, h2]

/-- The sanitised value depends on the address the parameter denotes, not on its spelling
(`::ffff:1.2.3.4` / `1.2.3.4`, case, zero compression). -/
theorem clientAddr_depends_on_address_only (s t : Str) (hs : s ≠ []) (ht : t ≠ []) (h : parseIP s = parseIP t) :
    clientAddr s = clientAddr t := by
  -- holds for the empty spelling as well: `hs` and `ht` are not needed
  rw [clientAddr_eq, clientAddr_eq, h]

/-- **The bridge is told that address or none.**  A non-empty result names, with stub port 1, an address
whose text parses back to exactly the specified address that the `client_ip` parameter denotes. -/
theorem clientAddr_tells_that_address (s : Str) (hne : clientAddr s ≠ []) :
    ∃ ip, parseIP s = some ip ∧ ip.length = 16 ∧ ip ≠ ipv4zero ∧ ip ≠ ipv6unspecified
      ∧ clientAddr s = joinHostPort (render ip) [49] ∧ parseIP (render ip) = some ip := by
  rw [clientAddr_eq] at hne ⊢
  cases hp : parseIP s with
  | none => simp [hp] at hne
  | some ip =>
    have hl := parseIP_length hp
    cases hu : isUnspecified ip with
    | true => simp [hp, hu] at hne
    | false =>
      have hnot : ¬ (ip = ipv4zero ∨ ip = ipv6unspecified) := by rw [← isUnspecified_iff ip hl, hu]; simp
      exact ⟨ip, rfl, hl, fun h => hnot (Or.inl h), fun h => hnot (Or.inr h), by simp [hu], render_parses_back ip hl⟩

section ring
variable {K V : Type} [DecidableEq K] (k0 : K) (v0 : V)

/-- the map after `ops` on `newClientIDMap(n)` -/
def after (n : Nat) (ops : List (Op K V)) : Ring K V := (runRing k0 v0 (Ring.new k0 v0 n) ops).2

theorem abs_after (n : Nat) (ops : List (Op K V)) : Abs k0 v0 n (sets ops).reverse (after k0 v0 n ops) := by
  simpa [after] using (run_refines ops (abs_new (k0 := k0) (v0 := v0) n)).2.1

/-- **Refinement.**  For every capacity and every sequence of `Set`/`Get` the ring map answers each `Get`
like the log of the last `n` sets, newest first: the most recent `Set` of that ClientID among them, else
absent. -/
theorem ring_refines_log (n : Nat) (ops : List (Op K V)) :
    (runRing k0 v0 (Ring.new k0 v0 n) ops).1 = (runLog n [] ops).1 := by
  simpa using (run_refines ops (abs_new (k0 := k0) (v0 := v0) n)).1

/-- State form of the refinement (`(sets ops).reverse` is the history, newest first). -/
theorem ring_get_spec (n : Nat) (ops : List (Op K V)) (k : K) :
    Ring.get k0 v0 (after k0 v0 n ops) k = logGet ((sets ops).reverse.take n) k :=
  (abs_after k0 v0 n ops).get_eq k

/-- **Bounded memory**: `len(m.entries)` stays `capacity` and `len(m.current)` never exceeds it. -/
theorem ring_bounded (n : Nat) (ops : List (Op K V)) :
    (after k0 v0 n ops).entries.length = n ∧ (after k0 v0 n ops).current.length ≤ n :=
  (abs_after k0 v0 n ops).size_le

/-- **No out-of-range access.**  `m.entries[m.oldest]` in `Set` and `m.entries[i]` in `Get` are inside the
buffer: the model's defaults for out-of-range reads are never used, and the Go code cannot panic there. -/
theorem ring_indices_in_range (n : Nat) (ops : List (Op K V)) :
    (n = 0 ∨ (after k0 v0 n ops).oldest < n)
    ∧ ∀ k i, (after k0 v0 n ops).current.get k = some i → i < (after k0 v0 n ops).entries.length :=
  (abs_after k0 v0 n ops).in_range

theorem ring_capacity_zero (ops : List (Op K V)) (k : K) : Ring.get k0 v0 (after k0 v0 0 ops) k = none := by
  rw [ring_get_spec]; simp [logGet]

omit k0 v0 in
theorem logGet_take_newest (n : Nat) (B rest : List (K × V)) (k : K) (v : V) (hB : ∀ e ∈ B, e.1 ≠ k) :
    logGet ((B ++ (k, v) :: rest).take n) k = if B.length < n then some v else none := by
  have hnone : (B.take n).find? (fun e => e.1 = k) = none :=
    List.find?_eq_none.mpr fun e he => by simpa using hB e (List.mem_of_mem_take he)
  rw [logGet, List.take_append, List.find?_append, hnone, Option.none_or]
  split
  · rw [show n - B.length = (n - B.length - 1) + 1 by omega]; simp
  · rw [show n - B.length = 0 by omega]; rfl

/-- **The last `Set k` and what followed**: remembered iff fewer than `n` sets followed it. -/
theorem ring_last_set (n : Nat) (pre post : List (Op K V)) (k : K) (v : V) (hother : ∀ e ∈ sets post, e.1 ≠ k) :
    Ring.get k0 v0 (after k0 v0 n (pre ++ Op.set k v :: post)) k
      = if (sets post).length < n then some v else none := by
  rw [ring_get_spec, sets_append]
  simpa [sets] using logGet_take_newest n (sets post).reverse (sets pre).reverse k v (by simpa using hother)

/-- **Not forgotten early**: a ClientID's address survives until `capacity` further `Set`s. -/
theorem ring_remembers (n : Nat) (pre post : List (Op K V)) (k : K) (v : V)
    (hother : ∀ e ∈ sets post, e.1 ≠ k) (hfew : (sets post).length < n) :
    Ring.get k0 v0 (after k0 v0 n (pre ++ Op.set k v :: post)) k = some v := by
  rw [ring_last_set k0 v0 n pre post k v hother, if_pos hfew]

/-- **Oldest forgotten first**: after `capacity` `Set`s of other ClientIDs, `Get` reports it absent. -/
theorem ring_forgets (n : Nat) (pre post : List (Op K V)) (k : K) (v : V)
    (hother : ∀ e ∈ sets post, e.1 ≠ k) (hmany : n ≤ (sets post).length) :
    Ring.get k0 v0 (after k0 v0 n (pre ++ Op.set k v :: post)) k = none := by
  rw [ring_last_set k0 v0 n pre post k v hother, if_neg (by omega)]

/-- **Never another ClientID's address**: what `Get(id)` returns was stored by a `Set(id, _)`. -/
theorem ring_get_own (n : Nat) (ops : List (Op K V)) (k : K) (v : V)
    (h : Ring.get k0 v0 (after k0 v0 n ops) k = some v) : (k, v) ∈ sets ops := by
  rw [ring_get_spec] at h
  exact List.mem_reverse.mp (List.mem_of_mem_take (logGet_some_mem h))

end ring

/-! ## Non-vacuity and sensitivity -/

/-- capacity 2, colliding ids (including the all-zero id 0, the key of a never-written slot) -/
example :
    (runRing 0 0 (Ring.new 0 0 2) [Op.get 0, Op.set 1 5, Op.get 0, Op.set 2 6, Op.get 1, Op.set 3 7,
        Op.get 1, Op.get 2, Op.get 3, Op.set 0 8, Op.get 0, Op.set 0 9, Op.set 4 1, Op.get 0, Op.set 5 2, Op.get 0]).1
      = [none, none, some 5, none, some 6, some 7, some 8, some 9, none] := by decide +kernel

/-- The guard `i == m.oldest` of the delete is essential: without it, re-setting a ClientID and then
overwriting its older slot forgets the newer entry although it is among the last `n` sets. -/
def setNoGuard (m : Ring Nat Nat) (k v : Nat) : Ring Nat Nat :=
  if m.entries.length = 0 then m
  else
    let old := (m.entries.getD m.oldest (0, 0)).1
    { entries := m.entries.set m.oldest (k, v)
      oldest := (m.oldest + 1) % m.entries.length
      current := (m.current.delete old).set k m.oldest }

example :
    let m := setNoGuard (setNoGuard (setNoGuard (setNoGuard (Ring.new 0 0 3) 1 10) 1 11) 2 12) 3 13
    Ring.get 0 0 m 1 = none ∧ logGet [(3, 13), (2, 12), (1, 11)] 1 = some 11 := by decide +kernel

/-- Dropping the delete altogether would hand out another ClientID's address. -/
def setNoDelete (m : Ring Nat Nat) (k v : Nat) : Ring Nat Nat :=
  if m.entries.length = 0 then m
  else
    { entries := m.entries.set m.oldest (k, v)
      oldest := (m.oldest + 1) % m.entries.length
      current := m.current.set k m.oldest }

example : Ring.get 0 0 (setNoDelete (setNoDelete (Ring.new 0 0 1) 1 10) 2 20) 1 = some 20 := by decide +kernel

example : clientAddr (ofString "1.2.3.4") = ofString "1.2.3.4:1"
    ∧ clientAddr (ofString "::ffff:1.2.3.4") = ofString "1.2.3.4:1"
    ∧ clientAddr (ofString "2001:db8:0:0:1:0:0:1") = ofString "[2001:db8::1:0:0:1]:1"
    ∧ clientAddr (ofString "0.0.0.0") = [] ∧ clientAddr (ofString "::") = [] ∧ clientAddr (ofString "::ffff:0:0") = []
    ∧ clientAddr (ofString "fe80::1%eth0") = [] ∧ clientAddr (ofString "1.2.3.4:80") = []
    ∧ clientAddr (ofString "01.2.3.4") = [] ∧ clientAddr [] = [] := by decide +kernel

end Snowflake.ClientAddr.C18
