import Snowflake.Proofs.Base64
import Snowflake.Model.Amp
/-! The AMP armor encoder (C10) in normal form — byte by byte, whatever the `Write` calls — and the
shape of what it writes: complete `pre` elements of bounded words. -/
namespace Snowflake.Amp
open Snowflake.Base64 (Bytes)

/-! ## The element encoder, one byte at a time -/

/-- What `elementEncoder.Write` does with a single byte. -/
def ElemEnc.byte (enc : ElemEnc) (b : UInt8) : ElemEnc × Bytes :=
  let o0 : Bytes := if enc.ec = 0 ∧ enc.cc = 0 then preOpen else []
  if enc.cc + 1 ≥ bytesPerChunk then
    if enc.ec + 1 ≥ chunksPerElement then (⟨0, 0⟩, o0 ++ [b] ++ [10] ++ preClose)
    else (⟨0, enc.ec + 1⟩, o0 ++ [b] ++ [10])
  else (⟨enc.cc + 1, enc.ec⟩, o0 ++ [b])

/-- `elementEncoder.Write` in normal form: it depends on the text only, not on the writes (`write_bytes`). -/
def ElemEnc.bytes : ElemEnc → Bytes → ElemEnc × Bytes
  | enc, [] => (enc, [])
  | enc, b :: bs => let r := enc.byte b; let r2 := ElemEnc.bytes r.1 bs; (r2.1, r.2 ++ r2.2)

/-- The counters between two bytes: `Write` resets each as soon as it reaches its bound. -/
def ElemEnc.Ok (enc : ElemEnc) : Prop := enc.cc < bytesPerChunk ∧ enc.ec < chunksPerElement

theorem ElemEnc.byte_ok (enc : ElemEnc) (b : UInt8) (h : enc.Ok) : (enc.byte b).1.Ok := by
  unfold ElemEnc.byte
  simp only [ElemEnc.Ok, bytesPerChunk, chunksPerElement] at *
  by_cases h1 : enc.cc + 1 ≥ 32
  · by_cases h2 : enc.ec + 1 ≥ 992
    · simp [h1, h2]
    · simp only [h1, h2, if_true, if_false]; omega
  · simp only [h1, if_false]; omega

theorem ElemEnc.bytes_ok (p : Bytes) (enc : ElemEnc) (h : enc.Ok) : (ElemEnc.bytes enc p).1.Ok := by
  fun_induction ElemEnc.bytes enc p with
  | case1 => exact h
  | case2 enc b bs r r2 ih => exact ih (ElemEnc.byte_ok enc b h)

theorem ElemEnc.bytes_append (a b : Bytes) (enc : ElemEnc) :
    ElemEnc.bytes enc (a ++ b) =
      ((ElemEnc.bytes (ElemEnc.bytes enc a).1 b).1, (ElemEnc.bytes enc a).2 ++ (ElemEnc.bytes (ElemEnc.bytes enc a).1 b).2) := by
  fun_induction ElemEnc.bytes enc a with
  | case1 => simp
  | case2 enc x xs r r2 ih => simp [ElemEnc.bytes, r, r2, ih]

/-- One iteration of the loop of `elementEncoder.Write` (a block within one chunk), in the loop body's
own terms. -/
theorem ElemEnc.bytes_iter (blk : Bytes) (hne : blk ≠ []) : ∀ (enc : ElemEnc), enc.ec < chunksPerElement →
    enc.cc + blk.length ≤ bytesPerChunk →
    ElemEnc.bytes enc blk =
      let X : Nat × Nat × List Bytes :=
        if enc.cc + blk.length ≥ bytesPerChunk then (0, enc.ec + 1, [[10]]) else (enc.cc + blk.length, enc.ec, [])
      let Y : Nat × List Bytes := if X.2.1 ≥ chunksPerElement then (0, [preClose]) else (X.2.1, [])
      (⟨X.1, Y.1⟩, ((if enc.ec = 0 ∧ enc.cc = 0 then [preOpen] else []) ++ [blk] ++ X.2.2 ++ Y.2).flatten) := by
  have hw0 : ∀ c : Prop, [Decidable c] → (if c then [preOpen] else ([] : List Bytes)).flatten = if c then preOpen else [] := by
    intro c _; split <;> simp
  induction blk with
  | nil => exact absurd rfl hne
  | cons b bs ih =>
    intro enc hec h
    cases bs with
    | nil =>
      simp only [ElemEnc.bytes, ElemEnc.byte, List.length_singleton]
      split
      · split <;> simp [hw0]
      · have : ¬ chunksPerElement ≤ enc.ec := by omega
        simp [hw0, this]
    | cons c cs =>
      -- the chunk is not completed by `b`: the rest of the block goes on from the next counter
      simp only [List.length_cons] at h
      have hlt : ¬ (enc.cc + 1 ≥ bytesPerChunk) := by simp only [bytesPerChunk] at *; omega
      rw [ElemEnc.bytes]
      simp only [ElemEnc.byte, hlt, if_false]
      rw [ih (by simp) ⟨enc.cc + 1, enc.ec⟩ hec (by simp only [List.length_cons]; omega)]
      have e1 : enc.cc + 1 + (cs.length + 1) = enc.cc + (cs.length + 1 + 1) := by omega
      simp only [List.length_cons, e1]
      split <;> simp [hw0]

theorem ElemEnc.write_bytes (fuel : Nat) (enc : ElemEnc) (p : Bytes) (hok : enc.Ok) (h : p.length ≤ fuel) :
    (ElemEnc.write fuel enc p).1 = (ElemEnc.bytes enc p).1
    ∧ (ElemEnc.write fuel enc p).2.flatten = (ElemEnc.bytes enc p).2 := by
  fun_induction ElemEnc.write fuel enc p with
  | case1 enc p => simp [List.eq_nil_of_length_eq_zero (Nat.le_zero.mp h), ElemEnc.bytes]
  | case2 fuel enc p hpos w0 n w1 cc' cc ec' w2 h2 ec w3 h3 r ih =>
    obtain ⟨hcc, hec⟩ := hok
    have hn : (p.take n).length = n := by simp only [n, List.length_take, bytesPerChunk] at *; omega
    have hn1 : 1 ≤ n := by simp only [n, bytesPerChunk] at *; omega
    -- this iteration does with its block `p.take n` what `bytes` does
    have hB := ElemEnc.bytes_iter (p.take n) (List.ne_nil_of_length_pos (by omega)) enc hec
      (by simp only [hn, n, bytesPerChunk] at *; omega)
    simp only [hn, cc', h2, h3] at hB
    have hok' : ElemEnc.Ok ⟨cc, ec⟩ := by have := ElemEnc.bytes_ok (p.take n) enc ⟨hcc, hec⟩; rwa [hB] at this
    obtain ⟨i1, i2⟩ := ih hok' (by simp only [List.length_drop]; omega)
    have hp := ElemEnc.bytes_append (p.take n) (p.drop n) enc
    rw [List.take_append_drop, hB] at hp
    rw [hp]
    exact ⟨i1, by simp [w0, w1, r, i2]⟩
  | case3 fuel enc p hpos => simp [List.eq_nil_of_length_eq_zero (Nat.eq_zero_of_not_pos hpos), ElemEnc.bytes]

theorem ElemEnc.writes_bytes (ws : List Bytes) (enc : ElemEnc) (hok : enc.Ok) :
    (ElemEnc.writes enc ws).1 = (ElemEnc.bytes enc ws.flatten).1
    ∧ (ElemEnc.writes enc ws).2.flatten = (ElemEnc.bytes enc ws.flatten).2 := by
  fun_induction ElemEnc.writes enc ws with
  | case1 => simp [ElemEnc.bytes]
  | case2 enc w ws r r2 ih =>
    obtain ⟨w1, w2⟩ := ElemEnc.write_bytes w.length enc w hok (Nat.le_refl _)
    obtain ⟨i1, i2⟩ := ih (w1 ▸ ElemEnc.bytes_ok w enc hok)
    simp only [List.flatten_cons, ElemEnc.bytes_append, List.flatten_append]
    rw [i1, i2, w1, w2]
    exact ⟨rfl, rfl⟩

/-- What stands between header and trailer for the text `t`. -/
def body (t : Bytes) : Bytes := (ElemEnc.bytes {} t).2 ++ (ElemEnc.bytes {} t).1.close.flatten

theorem run_closed (cs : List Bytes) (a : ArmorEnc) (hb : a.b64.length < 3) (hok : a.el.Ok) :
    (ArmorEnc.run a cs).flatten =
      (ElemEnc.bytes a.el (Base64.encode Base64.std (a.b64 ++ cs.flatten))).2
        ++ (ElemEnc.bytes a.el (Base64.encode Base64.std (a.b64 ++ cs.flatten))).1.close.flatten
        ++ boilerplateEnd := by
  fun_induction ArmorEnc.run a cs with
  | case1 a =>
    obtain ⟨w1, w2⟩ := ElemEnc.writes_bytes (Base64.Encoder.close Base64.std a.b64) a.el hok
    simp only [ArmorEnc.close, List.flatten_nil, List.append_nil, List.flatten_append, w1, w2,
      Base64.close_spec, List.flatten_cons]
  | case2 a c cs r ih =>
    obtain ⟨s1, hb'⟩ := Base64.write_spec Base64.std a.b64 c cs.flatten hb
    obtain ⟨w1, w2⟩ := ElemEnc.writes_bytes (Base64.Encoder.write Base64.std a.b64 c).2 a.el hok
    have hok' : (ElemEnc.writes a.el (Base64.Encoder.write Base64.std a.b64 c).2).1.Ok :=
      w1 ▸ ElemEnc.bytes_ok _ _ hok
    simp only [r, ArmorEnc.write, List.flatten_append, List.flatten_cons] at ih ⊢
    rw [ih hb' hok', ← List.append_assoc a.b64, ← s1, ElemEnc.bytes_append]
    simp only [w1, w2, List.append_assoc]

theorem newArmorEncoder_eq : newArmorEncoder = (⟨[], ⟨1, 0⟩⟩, [boilerplateStart, preOpen, [48]]) := by
  rfl

theorem encodeChunks_eq (cs : List Bytes) :
    encodeChunks cs = boilerplateStart ++ body (48 :: Base64.encode Base64.std cs.flatten) ++ boilerplateEnd := by
  unfold encodeChunks
  rw [newArmorEncoder_eq]
  simp only [List.flatten_append, List.flatten_cons, List.flatten_nil, List.append_nil]
  rw [run_closed cs ⟨[], ⟨1, 0⟩⟩ (by simp) (by simp [ElemEnc.Ok, bytesPerChunk, chunksPerElement])]
  simp only [List.nil_append, body]
  have h0 : ElemEnc.bytes {} (48 :: Base64.encode Base64.std cs.flatten)
      = ((ElemEnc.bytes ⟨1, 0⟩ (Base64.encode Base64.std cs.flatten)).1,
         preOpen ++ [48] ++ (ElemEnc.bytes ⟨1, 0⟩ (Base64.encode Base64.std cs.flatten)).2) := by
    rfl
  rw [h0]
  simp only [List.append_assoc]

def renderWords (ws : List Bytes) : Bytes := (ws.map (· ++ [10])).flatten
/-- `<pre>\n(word\n)*</pre>\n` -/
def renderElem (ws : List Bytes) : Bytes := preOpen ++ renderWords ws ++ preClose

theorem renderWords_append (a b : List Bytes) : renderWords (a ++ b) = renderWords a ++ renderWords b := by
  simp [renderWords]

/-- Output so far: the finished elements, and the element in progress (finished words `op`, current
word `w`). -/
def partialRender (done : List (List Bytes)) (op : List Bytes) (w : Bytes) : Bytes :=
  (done.map renderElem).flatten ++ (if op = [] ∧ w = [] then [] else preOpen ++ renderWords op ++ w)

/-- What the encoder writes: words of 1 to `bytesPerChunk` bytes, elements of 1 to `chunksPerElement` words. -/
def WordOk (w : Bytes) : Prop := w ≠ [] ∧ w.length ≤ bytesPerChunk
def ElemOk (e : List Bytes) : Prop := e ≠ [] ∧ e.length ≤ chunksPerElement ∧ ∀ w ∈ e, WordOk w

theorem pr_nil (done : List (List Bytes)) : partialRender done [] [] = (done.map renderElem).flatten := by
  simp [partialRender]

theorem pr_byte (done : List (List Bytes)) (op : List Bytes) (w : Bytes) (b : UInt8) :
    partialRender done op w ++ ((if op = [] ∧ w = [] then preOpen else []) ++ [b])
      = partialRender done op (w ++ [b]) := by
  unfold partialRender
  by_cases h : op = [] ∧ w = []
  · obtain ⟨e1, e2⟩ := h; subst e1 e2; simp [renderWords]
  · simp [h]

theorem pr_word (done : List (List Bytes)) (op : List Bytes) (w : Bytes) (hw : w ≠ []) :
    partialRender done op w ++ [10] = partialRender done (op ++ [w]) [] := by
  unfold partialRender
  simp [hw, renderWords]

theorem pr_elem (done : List (List Bytes)) (op : List Bytes) (hop : op ≠ []) :
    partialRender done op [] ++ preClose = partialRender (done ++ [op]) [] [] := by
  unfold partialRender
  simp [hop, renderElem]

theorem all_snoc {α} {P : α → Prop} (l : List α) (a : α) (hl : ∀ x ∈ l, P x) (ha : P a) : ∀ x ∈ l ++ [a], P x :=
  List.forall_mem_append.mpr ⟨hl, List.forall_mem_singleton.mpr ha⟩

theorem elemOk_snoc (op : List Bytes) (w : Bytes) (hop : ∀ x ∈ op, WordOk x) (hw : WordOk w)
    (hl : op.length + 1 ≤ chunksPerElement) : ElemOk (op ++ [w]) :=
  ⟨by simp, by simp only [List.length_append, List.length_singleton]; exact hl, all_snoc op w hop hw⟩

theorem close_flat (enc : ElemEnc) : enc.close.flatten =
    if enc.ec = 0 ∧ enc.cc = 0 then [] else if enc.cc = 0 then preClose else 10 :: preClose := by
  unfold ElemEnc.close
  by_cases h00 : enc.ec = 0 ∧ enc.cc = 0
  · simp [h00]
  · by_cases hc0 : enc.cc = 0
    · have hec : enc.ec ≠ 0 := fun h => h00 ⟨h, hc0⟩
      simp [hec, hc0]
    · simp [hc0]

/-- The counters of the element encoder against the output so far (`done`, `op`, `w` as in
`partialRender`). -/
structure ElemEnc.At (enc : ElemEnc) (done : List (List Bytes)) (op : List Bytes) (w : Bytes) : Prop where
  ec : enc.ec = op.length
  cc : enc.cc = w.length
  wlt : w.length < bytesPerChunk
  oplt : op.length < chunksPerElement
  done : ∀ e ∈ done, ElemOk e
  op : ∀ x ∈ op, WordOk x

theorem ElemEnc.At.byte {enc : ElemEnc} {done : List (List Bytes)} {op : List Bytes} {w : Bytes}
    (h : enc.At done op w) (b : UInt8) :
    ∃ done' op' w', (enc.byte b).1.At done' op' w'
      ∧ partialRender done' op' w' = partialRender done op w ++ (enc.byte b).2
      ∧ done'.flatten.flatten ++ op'.flatten ++ w' = done.flatten.flatten ++ op.flatten ++ w ++ [b] := by
  obtain ⟨hec, hcc, hw, hop, hdone, hopok⟩ := h
  have hpfx : (if enc.ec = 0 ∧ enc.cc = 0 then preOpen else ([] : Bytes)) = if op = [] ∧ w = [] then preOpen else [] := by
    have : (enc.ec = 0 ∧ enc.cc = 0) ↔ (op = [] ∧ w = []) := by
      rw [hec, hcc, List.length_eq_zero_iff, List.length_eq_zero_iff]
    simp only [this]
  have hwb : WordOk (w ++ [b]) := ⟨by simp, by simp only [List.length_append, List.length_singleton]; omega⟩
  unfold ElemEnc.byte
  simp only [hpfx]
  by_cases hfull : enc.cc + 1 ≥ bytesPerChunk
  · by_cases hel : enc.ec + 1 ≥ chunksPerElement
    · -- the word and the element are complete
      simp only [hfull, hel, if_true]
      refine ⟨done ++ [op ++ [w ++ [b]]], [], [], ?_, ?_, by simp⟩
      · exact ⟨rfl, rfl, by decide, by decide, all_snoc done _ hdone (elemOk_snoc op _ hopok hwb (by omega)), nofun⟩
      · rw [← pr_elem done _ (by simp), ← pr_word done op _ (by simp), ← pr_byte]
        simp only [List.append_assoc]
    · -- the word is complete
      simp only [hfull, hel, if_true, if_false]
      refine ⟨done, op ++ [w ++ [b]], [], ?_, ?_, by simp⟩
      · exact ⟨by simp only [List.length_append, List.length_singleton]; omega, rfl, by decide,
          by simp only [List.length_append, List.length_singleton]; omega, hdone, all_snoc op _ hopok hwb⟩
      · rw [← pr_word done op _ (by simp), ← pr_byte]
        simp only [List.append_assoc]
  · simp only [hfull, if_false]
    refine ⟨done, op, w ++ [b], ?_, ?_, by simp⟩
    · exact ⟨hec, by simp only [List.length_append, List.length_singleton]; omega,
        by simp only [List.length_append, List.length_singleton]; omega, hop, hdone, hopok⟩
    · rw [← pr_byte]

theorem ElemEnc.At.close {enc : ElemEnc} {done : List (List Bytes)} {op : List Bytes} {w : Bytes}
    (h : enc.At done op w) :
    ∃ elems : List (List Bytes), partialRender done op w ++ enc.close.flatten = (elems.map renderElem).flatten
      ∧ elems.flatten.flatten = done.flatten.flatten ++ op.flatten ++ w
      ∧ ∀ e ∈ elems, ElemOk e := by
  obtain ⟨hec, hcc, hw, hop, hdone, hopok⟩ := h
  rw [close_flat]
  by_cases h00 : enc.ec = 0 ∧ enc.cc = 0
  · have hop0 : op = [] := List.eq_nil_of_length_eq_zero (by omega)
    have hw0 : w = [] := List.eq_nil_of_length_eq_zero (by omega)
    subst hop0 hw0
    exact ⟨done, by simp [h00, pr_nil], by simp, hdone⟩
  · by_cases hc0 : enc.cc = 0
    · have hw0 : w = [] := List.eq_nil_of_length_eq_zero (by omega)
      subst hw0
      have hopne : op ≠ [] := by intro h; subst h; simp at hec; omega
      refine ⟨done ++ [op], ?_, by simp, all_snoc done op hdone ⟨hopne, by omega, hopok⟩⟩
      rw [if_neg h00, if_pos hc0, pr_elem done op hopne, pr_nil]
    · have hwne : w ≠ [] := by intro h; subst h; simp at hcc; omega
      refine ⟨done ++ [op ++ [w]], ?_, by simp, all_snoc done _ hdone (elemOk_snoc op w hopok ⟨hwne, by omega⟩ (by omega))⟩
      rw [if_neg h00, if_neg hc0]
      rw [show (10 :: preClose) = [10] ++ preClose from rfl, ← List.append_assoc, pr_word done op w hwne,
        pr_elem done _ (by simp), pr_nil]

theorem body_invariant : ∀ (t : Bytes) (enc : ElemEnc) (done : List (List Bytes)) (op : List Bytes) (w : Bytes),
    enc.At done op w →
    ∃ elems : List (List Bytes), partialRender done op w ++ (ElemEnc.bytes enc t).2 ++ (ElemEnc.bytes enc t).1.close.flatten
        = (elems.map renderElem).flatten
      ∧ elems.flatten.flatten = done.flatten.flatten ++ op.flatten ++ w ++ t
      ∧ ∀ e ∈ elems, ElemOk e := by
  intro t
  induction t with
  | nil => intro enc done op w h; simpa [ElemEnc.bytes] using h.close
  | cons b t ih =>
    intro enc done op w h
    obtain ⟨done', op', w', h', hr, hc⟩ := h.byte b
    obtain ⟨elems, g1, g2, g3⟩ := ih _ done' op' w' h'
    refine ⟨elems, ?_, ?_, g3⟩
    · rw [← g1, hr, ElemEnc.bytes]; simp only [List.append_assoc]
    · rw [g2, hc]; simp

theorem body_shape (t : Bytes) :
    ∃ elems : List (List Bytes), body t = (elems.map renderElem).flatten ∧ elems.flatten.flatten = t
      ∧ ∀ e ∈ elems, ElemOk e := by
  obtain ⟨elems, h1, h2, h3⟩ := body_invariant t {} [] [] [] ⟨rfl, rfl, by decide, by decide, nofun, nofun⟩
  refine ⟨elems, ?_, by simpa using h2, h3⟩
  rw [← h1]; simp [partialRender, body]

end Snowflake.Amp
