import Snowflake.Model.ClientAddr
/-!
The invariant that links a `Ring` to the full history of its `set`s (the `d`-th newest set lives in slot
`(|R| - 1 - d) % n`), and from it the refinement of every operation sequence by the bounded log (C18).
-/
namespace Snowflake.ClientAddr

namespace Index
variable {K : Type} [DecidableEq K]

theorem get_delete (m : Index K) (k k' : K) :
    (delete m k).get k' = if k' = k then none else m.get k' := by
  simp only [delete, get, List.find?_filter]
  split
  · subst_vars; simp
  · congr 2; funext e
    by_cases he : e.1 = k' <;> simp_all

theorem get_set (m : Index K) (k k' : K) (i : Nat) :
    (set m k i).get k' = if k' = k then some i else m.get k' := by
  by_cases h : k' = k
  · simp [set, get, h]
  · have hd := get_delete m k k'
    simp only [get] at hd
    simp [set, get, h, Ne.symm h, hd]

def keys (m : Index K) : List K := m.map (·.1)

theorem mem_keys_iff (m : Index K) (k : K) : k ∈ keys m ↔ (m.get k).isSome := by
  simp [keys, get]

theorem keys_delete (m : Index K) (k : K) : keys (delete m k) = (keys m).filter (fun x => ¬ x = k) := by
  simp [keys, delete, List.filter_map, Function.comp_def]

theorem nodup_delete (m : Index K) (k : K) (h : (keys m).Nodup) : (keys (delete m k)).Nodup := by
  rw [keys_delete]; exact h.filter _

theorem nodup_set (m : Index K) (k : K) (i : Nat) (h : (keys m).Nodup) : (keys (set m k i)).Nodup := by
  have h2 : k ∉ keys (delete m k) := by simp [keys_delete]
  simpa [set, keys] using ⟨by simpa [keys] using h2, by simpa [keys] using nodup_delete m k h⟩

end Index

/-- The slot of the `d`-th newest of `c` sets is the slot about to be overwritten iff `d = n - 1`. -/
theorem slot_eq_oldest_iff {n c d : Nat} (hd : d < c) (hdn : d < n) :
    (c - 1 - d) % n = c % n ↔ d + 1 = n := by
  constructor
  · intro h
    by_cases hlt : d + 1 < n
    · -- the two numbers are `d + 1 < n` apart, so they differ mod `n`
      have h0 := Nat.sub_mod_eq_zero_of_mod_eq h.symm
      rw [show c - (c - 1 - d) = d + 1 by omega, Nat.mod_eq_of_lt hlt] at h0
      omega
    · omega
  · intro h
    have hc : c = (c - 1 - d) + n := by omega
    conv => rhs; rw [hc]
    simp

section ring
variable {K V : Type} [DecidableEq K] (k0 : K) (v0 : V)

/-- The invariant linking the ring (capacity `n > 0`) to the full history `R` of `set`s, newest first.
`R[d]` is the `d`-th newest set; it lives in slot `(|R| - 1 - d) % n` as long as `d < n`. -/
structure Inv (n : Nat) (R : List (K × V)) (m : Ring K V) : Prop where
  len : m.entries.length = n
  old : m.oldest = R.length % n
  slots : ∀ d, d < R.length → d < n → m.entries[(R.length - 1 - d) % n]? = R[d]?
  fresh : ∀ j, R.length ≤ j → j < n → m.entries[j]? = some (k0, v0)
  cur_some : ∀ k i, m.current.get k = some i →
    ∃ d v, d < n ∧ R[d]? = some (k, v) ∧ i = (R.length - 1 - d) % n ∧ ∀ d', d' < d → ∀ v', R[d']? ≠ some (k, v')
  cur_none : ∀ k, m.current.get k = none → ∀ d, d < n → ∀ v, R[d]? ≠ some (k, v)
  nodup : (Index.keys m.current).Nodup

theorem inv_new (n : Nat) : Inv k0 v0 n [] (Ring.new k0 v0 n) where
  len := by simp [Ring.new]
  old := by simp [Ring.new]
  slots := by intro d hd; simp at hd
  fresh := by intro j _ hj; simp [Ring.new, hj]
  cur_some := by intro k i h; simp [Ring.new, Index.get] at h
  cur_none := by intro k _ d _ v; simp
  nodup := by simp [Ring.new, Index.keys]

variable {k0 v0}

/-- What an index entry says, with the slot's content and whether it is the slot overwritten next. -/
theorem Inv.depth {n : Nat} {R : List (K × V)} {m : Ring K V} (h : Inv k0 v0 n R m) {k : K} {i : Nat}
    (hk : m.current.get k = some i) :
    ∃ d v, d < n ∧ R[d]? = some (k, v) ∧ m.entries[i]? = some (k, v) ∧ i = (R.length - 1 - d) % n
      ∧ (i = m.oldest ↔ d + 1 = n) ∧ ∀ d', d' < d → ∀ v', R[d']? ≠ some (k, v') := by
  obtain ⟨d, v, hdn, hR, hi, hmin⟩ := h.cur_some k i hk
  have hdc : d < R.length := (List.getElem?_eq_some_iff.mp hR).1
  exact ⟨d, v, hdn, hR, by rw [hi, h.slots d hdc hdn, hR], hi, by rw [hi, h.old]; exact slot_eq_oldest_iff hdc hdn, hmin⟩

theorem Inv.points {n : Nat} {R : List (K × V)} {m : Ring K V} (h : Inv k0 v0 n R m) {k : K} {i : Nat}
    (hk : m.current.get k = some i) : ∃ v, m.entries[i]? = some (k, v) :=
  let ⟨_, v, _, _, he, _⟩ := h.depth hk
  ⟨v, he⟩

/-- The conditional delete of `Set` removes exactly the key that points at the slot about to be overwritten. -/
theorem Inv.evict_get {n : Nat} {R : List (K × V)} {m : Ring K V} (h : Inv k0 v0 n R m) (k' : K) :
    (if m.current.get (m.entries.getD m.oldest (k0, v0)).1 = some m.oldest
        then m.current.delete (m.entries.getD m.oldest (k0, v0)).1 else m.current).get k'
      = if m.current.get k' = some m.oldest then none else m.current.get k' := by
  have key : ∀ k'', m.current.get k'' = some m.oldest → (m.entries.getD m.oldest (k0, v0)).1 = k'' := by
    intro k'' hk
    obtain ⟨v, hv⟩ := h.points hk
    simp [List.getD_eq_getElem?_getD, hv]
  split
  · rename_i hc
    rw [Index.get_delete]
    by_cases hk : m.current.get k' = some m.oldest
    · rw [if_pos (key k' hk).symm, if_pos hk]
    · rw [if_neg hk, if_neg]; rintro rfl; exact hk hc
  · rename_i hc
    rw [if_neg]; intro hk; exact hc (key k' hk ▸ hk)

theorem inv_set {n : Nat} (hn : 0 < n) {R : List (K × V)} {m : Ring K V} (h : Inv k0 v0 n R m) (k : K) (v : V) :
    Inv k0 v0 n ((k, v) :: R) (Ring.set k0 v0 m k v) := by
  have hlen := h.len
  have hold := h.old
  have ho : m.oldest < n := hold ▸ Nat.mod_lt _ hn
  have hne : ¬ m.entries.length = 0 := by omega
  simp only [Ring.set, hne, if_false]
  refine { len := by simp [hlen], old := ?old, slots := ?slots, fresh := ?fresh, cur_some := ?cur_some,
           cur_none := ?cur_none, nodup := ?nodup }
  case old =>
    simp only [List.length_cons, hlen, hold, Nat.mod_add_mod]
  case slots =>
    intro d hd hdn
    simp only [List.length_cons] at hd ⊢
    cases d with
    | zero => simp [← hold, hlen, ho]
    | succ e =>
      -- depth `e + 1` of the new history is depth `e` of the old one, and not in the written slot `|R| % n`
      have hne' : m.oldest ≠ (R.length - 1 - e) % n := fun hh => by
        have := (slot_eq_oldest_iff (by omega) (by omega)).mp (hold ▸ hh.symm); omega
      rw [show R.length + 1 - 1 - (e + 1) = R.length - 1 - e by omega, List.getElem?_set, if_neg hne']
      simpa using h.slots e (by omega) (by omega)
  case fresh =>
    intro j hj hjn
    simp only [List.length_cons] at hj
    have := Nat.mod_le R.length n
    rw [List.getElem?_set, if_neg (by omega)]
    exact h.fresh j (by omega) hjn
  case cur_some =>
    intro k' i hk'
    rw [Index.get_set, h.evict_get] at hk'
    by_cases hkk : k' = k
    · subst hkk
      simp only [if_true, Option.some.injEq] at hk'
      exact ⟨0, v, hn, by simp, by simp [← hk', hold], by omega⟩
    · rw [if_neg hkk] at hk'
      split at hk'
      · cases hk'
      · rename_i hio
        obtain ⟨d, v', hdn, hR, _, hi, hdeep, hmin⟩ := h.depth hk'
        refine ⟨d + 1, v', ?_, by simpa using hR, ?_, ?_⟩
        · have : d + 1 ≠ n := fun hh => hio (by rw [hk', hdeep.mpr hh])
          omega
        · simp only [List.length_cons]; rw [hi]; congr 1; omega
        · intro d' hd' v''
          cases d' with
          | zero => simp; intro hh; exact fun _ => hkk hh.symm
          | succ e => simpa using hmin e (by omega) v''
  case cur_none =>
    intro k' hk' d hdn v''
    rw [Index.get_set, h.evict_get] at hk'
    by_cases hkk : k' = k
    · simp [hkk] at hk'
    · rw [if_neg hkk] at hk'
      cases d with
      | zero => simp; intro hh; exact fun _ => hkk hh.symm
      | succ e =>
        split at hk'
        · rename_i hco
          obtain ⟨d0, _, _, _, _, _, hdeep, hmin⟩ := h.depth hco
          exact hmin e (by have := hdeep.mp rfl; omega) v''
        · exact h.cur_none k' hk' e (by omega) v''
  case nodup =>
    apply Index.nodup_set
    split
    · exact Index.nodup_delete _ _ h.nodup
    · exact h.nodup

theorem logGet_first {L : List (K × V)} (k : K) (d : Nat) (v : V) (hd : L[d]? = some (k, v))
    (hmin : ∀ d', d' < d → ∀ v', L[d']? ≠ some (k, v')) : logGet L k = some v := by
  induction L generalizing d with
  | nil => simp at hd
  | cons x xs ih =>
    cases d with
    | zero =>
      simp only [List.getElem?_cons_zero, Option.some.injEq] at hd
      simp [logGet, hd]
    | succ e =>
      have hx : ¬ x.1 = k := by
        intro hh
        exact hmin 0 (by omega) x.2 (by simp [← hh])
      have := ih e (by simpa using hd) (fun d' hd' v' => by simpa using hmin (d' + 1) (by omega) v')
      simpa [logGet, List.find?_cons, hx] using this

theorem logGet_none (L : List (K × V)) (k : K) (h : ∀ (d : Nat) (v : V), L[d]? ≠ some (k, v)) : logGet L k = none := by
  simp only [logGet, Option.map_eq_none_iff, List.find?_eq_none, decide_eq_true_eq]
  rintro ⟨k', v⟩ he rfl
  obtain ⟨d, hd⟩ := List.getElem?_of_mem he
  exact h d v hd

theorem logGet_some_mem {L : List (K × V)} {k : K} {v : V} (h : logGet L k = some v) : (k, v) ∈ L := by
  simp only [logGet, Option.map_eq_some_iff] at h
  obtain ⟨⟨k', v'⟩, he, rfl⟩ := h
  obtain rfl : k' = k := by simpa using List.find?_some he
  exact List.mem_of_find?_eq_some he

theorem Inv.get_eq {n : Nat} {R : List (K × V)} {m : Ring K V} (h : Inv k0 v0 n R m) (k : K) :
    Ring.get k0 v0 m k = logGet (R.take n) k := by
  unfold Ring.get
  cases hk : m.current.get k with
  | none =>
    symm; apply logGet_none
    intro d v
    rw [List.getElem?_take]
    split
    · exact h.cur_none k hk d (by assumption) v
    · simp
  | some i =>
    simp only
    obtain ⟨d, v, hdn, hR, he, _, _, hmin⟩ := h.depth hk
    rw [List.getD_eq_getElem?_getD, he]
    symm
    apply logGet_first k d v
    · rw [List.getElem?_take, if_pos hdn]; exact hR
    · intro d' hd' v'
      rw [List.getElem?_take, if_pos (by omega)]
      exact hmin d' hd' v'

theorem Inv.keys_subset {n : Nat} {R : List (K × V)} {m : Ring K V} (h : Inv k0 v0 n R m) :
    Index.keys m.current ⊆ (R.take n).map (·.1) := by
  intro k hk
  rw [Index.mem_keys_iff] at hk
  cases hg : m.current.get k with
  | none => simp [hg] at hk
  | some i =>
    obtain ⟨d, v, hdn, hR, _, _⟩ := h.cur_some k i hg
    have : (R.take n)[d]? = some (k, v) := by rw [List.getElem?_take, if_pos hdn]; exact hR
    exact List.mem_map.mpr ⟨(k, v), List.mem_of_getElem? this, rfl⟩

theorem Inv.size_le {n : Nat} {R : List (K × V)} {m : Ring K V} (h : Inv k0 v0 n R m) :
    m.current.length ≤ n := by
  have h1 := List.Nodup.length_le_of_subset h.nodup h.keys_subset
  simp only [Index.keys, List.length_map, List.length_take] at h1
  omega

theorem set_cap0 (m : Ring K V) (hm : m.entries = []) (k : K) (v : V) : Ring.set k0 v0 m k v = m := by
  simp [Ring.set, hm]

/-- The abstraction relation for every capacity: for `n = 0` the map stays the empty initial map. -/
def Abs (k0 : K) (v0 : V) (n : Nat) (R : List (K × V)) (m : Ring K V) : Prop :=
  if n = 0 then m.entries = [] ∧ m.current = [] else Inv k0 v0 n R m

theorem abs_new (n : Nat) : Abs k0 v0 n [] (Ring.new k0 v0 n) := by
  unfold Abs
  split
  · subst_vars; simp [Ring.new]
  · exact inv_new k0 v0 n

theorem abs_set {n : Nat} {R : List (K × V)} {m : Ring K V} (h : Abs k0 v0 n R m) (k : K) (v : V) :
    Abs k0 v0 n ((k, v) :: R) (Ring.set k0 v0 m k v) := by
  unfold Abs at h ⊢
  split
  · rename_i hn; rw [if_pos hn] at h; rw [set_cap0 m h.1]; exact h
  · rename_i hn; rw [if_neg hn] at h; exact inv_set (by omega) h k v

theorem Abs.get_eq {n : Nat} {R : List (K × V)} {m : Ring K V} (h : Abs k0 v0 n R m) (k : K) :
    Ring.get k0 v0 m k = logGet (R.take n) k := by
  unfold Abs at h
  split at h
  · subst_vars; simp [Ring.get, h.2, Index.get, logGet]
  · exact Inv.get_eq h k

theorem Abs.size_le {n : Nat} {R : List (K × V)} {m : Ring K V} (h : Abs k0 v0 n R m) :
    m.entries.length = n ∧ m.current.length ≤ n := by
  unfold Abs at h
  split at h
  · subst_vars; simp [h.1, h.2]
  · exact ⟨h.len, Inv.size_le h⟩

/-- Every slice index the Go code uses is in range: no out-of-range panic. -/
theorem Abs.in_range {n : Nat} {R : List (K × V)} {m : Ring K V} (h : Abs k0 v0 n R m) :
    (n = 0 ∨ m.oldest < n) ∧ ∀ k i, m.current.get k = some i → i < m.entries.length := by
  unfold Abs at h
  split at h
  · exact ⟨Or.inl (by assumption), by intro k i hk; simp [h.2, Index.get] at hk⟩
  · refine ⟨Or.inr (by rw [h.old]; exact Nat.mod_lt _ (by omega)), ?_⟩
    intro k i hk
    obtain ⟨d, v, _, _, hi, _⟩ := h.cur_some k i hk
    rw [hi, h.len]; exact Nat.mod_lt _ (by omega)

omit [DecidableEq K] in
theorem logSet_take (n : Nat) (R : List (K × V)) (k : K) (v : V) :
    logSet n (R.take n) k v = ((k, v) :: R).take n := by
  cases n with
  | zero => simp [logSet]
  | succ n => simp [logSet, List.take_take]

/-- the `set`s of an operation sequence, in order; reversed, the history -/
def sets : List (Op K V) → List (K × V)
  | [] => []
  | Op.set k v :: ops => (k, v) :: sets ops
  | Op.get _ :: ops => sets ops

omit [DecidableEq K] in
theorem sets_append (a b : List (Op K V)) : sets (a ++ b) = sets a ++ sets b := by
  induction a with
  | nil => rfl
  | cons op a ih => cases op <;> simp [sets, ih]

theorem run_refines {n : Nat} (ops : List (Op K V)) {R : List (K × V)} {m : Ring K V} (h : Abs k0 v0 n R m) :
    (runRing k0 v0 m ops).1 = (runLog n (R.take n) ops).1
    ∧ Abs k0 v0 n ((sets ops).reverse ++ R) (runRing k0 v0 m ops).2
    ∧ (runLog n (R.take n) ops).2 = ((sets ops).reverse ++ R).take n := by
  induction ops generalizing R m with
  | nil => exact ⟨rfl, h, rfl⟩
  | cons op ops ih =>
    cases op with
    | set k v =>
      simp only [runRing, runLog, sets, logSet_take, List.reverse_cons, List.append_assoc, List.singleton_append]
      exact ih (abs_set h k v)
    | get k =>
      simp only [runRing, runLog, sets]
      obtain ⟨h1, h2, h3⟩ := ih h
      exact ⟨by rw [h.get_eq k, h1], h2, h3⟩

end ring
end Snowflake.ClientAddr
