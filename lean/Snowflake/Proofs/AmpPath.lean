import Snowflake.Model.AmpPath
/-! `path.Join` / `path.Clean` on paths given by their normal elements, the base32 fallback and the basic
domain prefix of `cache.go` (C11). -/
namespace Snowflake.AmpPath
open Snowflake.Base64 (Bytes)

theorem afterLastSlash_none (s : Bytes) (h : ∀ c ∈ s, c ≠ sl) : afterLastSlash s = none := by
  induction s with
  | nil => rfl
  | cons c r ih => simp_all [afterLastSlash]

theorem afterLastSlash_append (p s : Bytes) (h : ∀ c ∈ s, c ≠ sl) : afterLastSlash (p ++ sl :: s) = some s := by
  induction p with
  | nil => simp [afterLastSlash, afterLastSlash_none s h]
  | cons x p ih => simp [afterLastSlash, ih]

def SlashFree (s : Bytes) : Prop := ∀ c ∈ s, c ≠ sl

/-- A path element that `Clean` keeps as it is. -/
def NormalSeg (s : Bytes) : Prop := s ≠ [] ∧ s ≠ dot ∧ s ≠ dotdot ∧ SlashFree s

theorem splitSlash_seg (seg r cur : Bytes) (h : SlashFree seg) :
    splitSlash (seg ++ r) cur = splitSlash r (seg.reverse ++ cur) := by
  induction seg generalizing cur with
  | nil => rfl
  | cons c cs ih => simp_all [SlashFree, splitSlash]

theorem splitSlash_slash (r cur : Bytes) : splitSlash (sl :: r) cur = cur.reverse :: splitSlash r [] := by
  simp [splitSlash]

theorem splitSlash_single (x : Bytes) (hx : SlashFree x) (cur : Bytes) : splitSlash x cur = [(x.reverse ++ cur).reverse] := by
  simpa [splitSlash] using splitSlash_seg x [] cur hx

theorem splitSlash_joinSlash : ∀ (l : List Bytes), l ≠ [] → (∀ s ∈ l, SlashFree s) → splitSlash (joinSlash l) [] = l := by
  intro l hl hf
  fun_induction joinSlash l with
  | case1 => exact absurd rfl hl
  | case2 s => simpa [splitSlash] using splitSlash_seg s [] [] (hf s (List.mem_cons_self ..))
  | case3 s r hr ih =>
    simp only [List.forall_mem_cons] at hf
    rw [splitSlash_seg s _ [] hf.1, splitSlash_slash, ih hr hf.2]
    simp

theorem cleanSegs_normal (rooted : Bool) (l st : List Bytes) (h : ∀ s ∈ l, s = [] ∨ NormalSeg s) :
    cleanSegs rooted l st = st.reverse ++ l.filter (fun s => !s.isEmpty) := by
  induction l generalizing st with
  | nil => simp [cleanSegs]
  | cons s r ih =>
    simp only [List.forall_mem_cons] at h
    rcases h.1 with rfl | ⟨h1, h2, h3, _⟩
    · simp [cleanSegs, ih st h.2]
    · simp [cleanSegs, h1, h2, h3, ih (s :: st) h.2]

/-- `/l₁/l₂/…/lₙ` — an absolute path given by its elements (the empty list is the empty path). -/
def absPath (l : List Bytes) : Bytes := (l.map (fun s => sl :: s)).flatten

theorem absPath_append (a b : List Bytes) : absPath (a ++ b) = absPath a ++ absPath b := by
  simp [absPath]

theorem splitSlash_absPath (l : List Bytes) (cur : Bytes) (h : ∀ s ∈ l, SlashFree s) :
    splitSlash (absPath l) cur = cur.reverse :: l := by
  induction l generalizing cur with
  | nil => rfl
  | cons x l ih =>
    simp only [List.forall_mem_cons] at h
    rw [show absPath (x :: l) = sl :: (x ++ absPath l) by simp [absPath], splitSlash_slash,
      splitSlash_seg x _ [] h.1, ih _ h.2]
    simp

theorem joinRaw_nonempty (es : List Bytes) (buf : Bytes) (hb : buf ≠ []) : joinRaw buf es = buf ++ absPath es := by
  induction es generalizing buf with
  | nil => simp [joinRaw, absPath]
  | cons e es ih =>
    have hl : buf.length > 0 := List.length_pos_iff.mpr hb
    rw [joinRaw, if_pos (by simp [hl]), if_pos hl, ih _ (by simp)]
    simp [absPath]

theorem joinRaw_skip (es : List Bytes) : joinRaw [] ([] :: es) = joinRaw [] es := by
  simp [joinRaw]

theorem joinRaw_first (e : Bytes) (es : List Bytes) (he : e ≠ []) : joinRaw [] (e :: es) = e ++ absPath es := by
  rw [joinRaw, if_pos (by simp [he]), if_neg (by simp), List.nil_append, joinRaw_nonempty _ _ he]

theorem joinSlash_ne_nil (l : List Bytes) (hl : l ≠ []) (h : ∀ s ∈ l, s ≠ []) : joinSlash l ≠ [] := by
  -- the result begins with the first element
  fun_cases joinSlash l <;> simp_all

theorem normal_slashFree_all (l : List Bytes) (h : ∀ s ∈ l, NormalSeg s) : ∀ s ∈ l, SlashFree s :=
  fun s hs => (h s hs).2.2.2

theorem filter_normal {l : List Bytes} (h : ∀ s ∈ l, NormalSeg s) : l.filter (fun s => !s.isEmpty) = l :=
  List.filter_eq_self.mpr fun s hs => by simp [(h s hs).1]

theorem SlashFree.of_empty_or_normal {s : Bytes} (h : s = [] ∨ NormalSeg s) : SlashFree s :=
  h.elim (fun h => h ▸ nofun) (·.2.2.2)

theorem clean_absPath (x : Bytes) (L : List Bytes) (hx : x = [] ∨ NormalSeg x) (hL : ∀ s ∈ L, s = [] ∨ NormalSeg s)
    (hne : (x :: L).filter (fun s => !s.isEmpty) ≠ []) :
    clean (x ++ absPath L) = (if x = [] then [sl] else []) ++ joinSlash ((x :: L).filter fun s => !s.isEmpty) := by
  have hall : ∀ s ∈ x :: L, s = [] ∨ NormalSeg s := by simpa using ⟨hx, hL⟩
  have hsplit : splitSlash (x ++ absPath L) [] = x :: L := by
    rw [splitSlash_seg x _ [] (.of_empty_or_normal hx), splitSlash_absPath _ _ fun s hs => .of_empty_or_normal (hL s hs)]
    simp
  have hjne : joinSlash ((x :: L).filter fun s => !s.isEmpty) ≠ [] :=
    joinSlash_ne_nil _ hne fun s hs => by simpa using (List.mem_filter.mp hs).2
  -- the joined path is not empty, and begins with a slash exactly when `x` is empty
  have hhead : (x ++ absPath L).isEmpty = false ∧ ((x ++ absPath L).head? == some sl) = decide (x = []) := by
    match x, L, hx with
    | [], [], _ => simp at hne
    | [], l :: L, _ => simp [absPath]
    | c :: cs, _, .inr h => exact ⟨rfl, by simpa using h.2.2.2 c (List.mem_cons_self ..)⟩
  unfold clean
  simp only [hhead.1, hhead.2, hsplit, cleanSegs_normal _ _ [] hall, List.reverse_nil, List.nil_append,
    decide_eq_true_eq, Bool.false_eq_true, if_false]
  -- the output is not empty, so it is not replaced by `.`
  rw [if_neg (by simp [hjne])]

/-- **`path.Join` on normal components.**  `A`, `P`: the elements of the cache and publisher paths
(absolute, possibly empty); the result is the plain concatenation, rooted exactly when `A` is non-empty. -/
theorem pathJoin_normal (A mid P : List Bytes) (hA : ∀ s ∈ A, NormalSeg s) (hmid : ∀ s ∈ mid, NormalSeg s)
    (hP : ∀ s ∈ P, NormalSeg s) (hne : mid ≠ []) :
    pathJoin ([absPath A] ++ mid ++ [absPath P]) = (if A = [] then [] else [sl]) ++ joinSlash (A ++ mid ++ P) := by
  obtain ⟨m1, ms, rfl⟩ := List.exists_cons_of_ne_nil hne
  have hm1 := hmid m1 (List.mem_cons_self ..)
  have hsum : (([absPath A] ++ (m1 :: ms) ++ [absPath P]).map List.length).sum ≠ 0 := by
    have := List.length_pos_iff.mpr hm1.1
    simp only [List.map_append, List.map_cons, List.sum_append, List.sum_cons]
    omega
  -- `Join` puts a slash in front of the publisher path, which has one already: an empty element
  have hEN : ∀ s ∈ A ++ (m1 :: ms) ++ [] :: P, s = [] ∨ NormalSeg s := by
    intro s hs
    simp only [List.mem_append, List.mem_cons (a := s) (l := P)] at hs
    rcases hs with (h | h) | h | h
    · exact .inr (hA s h)
    · exact .inr (hmid s h)
    · exact .inl h
    · exact .inr (hP s h)
  have hfilter : (A ++ (m1 :: ms) ++ [] :: P).filter (fun s => !s.isEmpty) = A ++ (m1 :: ms) ++ P := by
    rw [List.filter_append, List.filter_append, filter_normal hA, filter_normal hmid]
    simp [filter_normal hP]
  unfold pathJoin
  rw [if_neg hsum]
  cases A with
  | nil =>
    -- an empty cache path is skipped: the result is relative
    have hraw : joinRaw [] ([absPath []] ++ (m1 :: ms) ++ [absPath P]) = m1 ++ absPath (ms ++ [] :: P) := by
      rw [show [absPath ([] : List Bytes)] ++ (m1 :: ms) ++ [absPath P] = [] :: m1 :: (ms ++ [absPath P]) from rfl,
        joinRaw_skip, joinRaw_first m1 _ hm1.1]
      simp [absPath]
    rw [hraw, clean_absPath m1 _ (.inr hm1) (fun s hs => hEN s (by simp [hs])) (by simp [hm1.1])]
    simpa [hm1.1] using congrArg joinSlash hfilter
  | cons a A' =>
    have hraw : joinRaw [] ([absPath (a :: A')] ++ (m1 :: ms) ++ [absPath P])
        = [] ++ absPath ((a :: A') ++ (m1 :: ms) ++ [] :: P) := by
      rw [show [absPath (a :: A')] ++ (m1 :: ms) ++ [absPath P] = absPath (a :: A') :: ((m1 :: ms) ++ [absPath P]) from rfl,
        joinRaw_first _ _ (by simp [absPath])]
      simp [absPath]
    rw [hraw, clean_absPath [] _ (.inl rfl) hEN (by simp [(hA a (List.mem_cons_self ..)).1])]
    simpa using congrArg joinSlash hfilter

/-- Characters of the lower-case base32 alphabet `a–z2–7`. -/
def isB32 (c : UInt8) : Bool := (97 ≤ c && c ≤ 122) || (50 ≤ c && c ≤ 55)

theorem b32sym_ok : ∀ i : Fin 32, isB32 (b32sym i.val) = true := by decide

theorem b32sym_mod (n : Nat) : isB32 (b32sym (n % 32)) = true := b32sym_ok ⟨n % 32, Nat.mod_lt _ (by decide)⟩

theorem base32_all (l : Bytes) : ∀ c ∈ base32 l, isB32 c = true := by
  rw [← List.all_eq_true]
  fun_induction base32 l <;> simp_all [b32sym_mod]

theorem base32_length (l : Bytes) : (base32 l).length = l.length / 5 * 8 + [0, 2, 4, 5, 7].getD (l.length % 5) 0 := by
  fun_induction base32 l with
  | case1 a b c d e rest v ih =>
    simp only [List.length_cons, ih]
    have e2 : (rest.length + 1 + 1 + 1 + 1 + 1) % 5 = rest.length % 5 := by omega
    rw [e2]; omega
  | _ => simp

theorem prefixMid_all (P : UInt8 → Prop) (u : Bytes) (h45 : P 45) (h48 : P 48) (hu : ∀ c ∈ u, c ≠ 46 → P c) :
    ∀ c ∈ prefixMid u, P c := by
  have hmap : ∀ c ∈ (u.flatMap fun c => if c == 45 then [45, 45] else [c]).map (fun c => if c == 46 then 45 else c), P c := by
    intro c hc
    obtain ⟨x, hx, rfl⟩ := List.mem_map.mp hc
    obtain ⟨y, hy, hxy⟩ := List.mem_flatMap.mp hx
    split
    · exact h45
    · rename_i h46
      split at hxy
      · obtain rfl : x = 45 := by simpa using hxy
        exact h45
      · obtain rfl : x = y := by simpa using hxy
        exact hu x hy (by simpa using h46)
  intro c hc
  simp only [prefixMid] at hc
  split at hc
  · simp only [List.mem_append, List.mem_cons, List.not_mem_nil, or_false] at hc
    -- `0-`, the mapped bytes, `-0`
    rcases hc with ((rfl | rfl) | h) | rfl | rfl
    · exact h48
    · exact h45
    · exact hmap c h
    · exact h45
    · exact h48
  · exact hmap c hc

theorem prefixMid_no_dot (u : Bytes) : ∀ c ∈ prefixMid u, c ≠ 46 :=
  prefixMid_all (· ≠ 46) u (by decide) (by decide) fun _ _ h => h

/-- The output of step 4 never starts with `xn--`.  (So `idna.ToASCII` has no punycode label to decode
in it, and on ASCII input it is the identity — the assumption under which `domainPrefixBasic` does not
consult `asc`.) -/
theorem prefixMid_not_ace (u : Bytes) : GoStr.hasPrefix (prefixMid u) acePrefix = false := by
  unfold prefixMid
  simp only []
  generalize (List.map (fun c => if c == 46 then 45 else c) (List.flatMap (fun c => if c == 45 then [45, 45] else [c]) u)) = p
  split
  · rfl
  · rename_i h
    rw [Bool.eq_false_iff]
    intro hp
    obtain ⟨r, rfl⟩ := List.isPrefixOf_iff_prefix.mp hp
    -- `xn--…` has hyphens at positions 3 and 4: it would have been wrapped
    simp [acePrefix] at h

end Snowflake.AmpPath
