import Snowflake.Base.Json
import Snowflake.Base.Radix
/-!
String literals, integers and flat objects written by `Marshal` are read back by the parser.
-/
namespace Snowflake.Json
open Snowflake

theorem hexVal_hexDigit : ∀ d : Fin 16, hexVal (hexDigit d.val) = some d.val := by decide

theorem hex4_u4 (n : Nat) (h : n < 65536) :
    hex4 (hexDigit (n / 4096 % 16)) (hexDigit (n / 256 % 16)) (hexDigit (n / 16 % 16)) (hexDigit (n % 16))
      = some n := by
  have hd : ∀ m, hexVal (hexDigit (m % 16)) = some (m % 16) :=
    fun m => hexVal_hexDigit ⟨m % 16, Nat.mod_lt _ (by decide)⟩
  simp only [hex4, hd]
  rw [Nat.mod_eq_of_lt (Nat.div_lt_of_lt_mul h : n / 4096 < 16)]
  exact congrArg some (radix4 16 n)

theorem strUnits_quote (rest : Text) : strUnits ('"' :: rest) = some ([], rest) := by
  rw [strUnits.eq_def]; simp

theorem strUnits_plain (c : Char) (h1 : c ≠ '"') (h2 : c ≠ '\\') (h3 : ¬ c.toNat < 0x20) (tail : Text) :
    strUnits (c :: tail) = pushUnit (.ch c) (strUnits tail) := by
  conv => lhs; rw [strUnits.eq_def]
  simp only [h1, h2, h3, if_false]

theorem strUnits_u4 (n : Nat) (h : n < 65536) (tail : Text) :
    strUnits (u4 n ++ tail) = pushUnit (mkUnit n) (strUnits tail) := by
  simp only [u4, List.cons_append, List.nil_append]
  conv => lhs; rw [strUnits.eq_def]
  simp only [show ('\\' = '"') = False by decide, if_false, if_true, hex4_u4 n h]

theorem mkUnit_char (c : Char) : mkUnit c.toNat = .ch c := by
  have := Utf8.char_range c
  have hs : isSurrogate c.toNat = false := by
    simp only [isSurrogate, Bool.and_eq_false_imp, decide_eq_true_eq, decide_eq_false_iff_not]; omega
  simp [mkUnit, hs]

theorem strUnits_escChar (c : Char) (tail : Text) :
    strUnits (escChar c ++ tail) = pushUnit (.ch c) (strUnits tail) := by
  have esc : ∀ e x, c = x → e ≠ 'u' → simpleEsc e = some x →
      strUnits ('\\' :: e :: tail) = pushUnit (.ch c) (strUnits tail) :=
    fun e x hc he hx => by
      conv => lhs; rw [strUnits.eq_def]
      simp only [show ('\\' = '"') = False by decide, if_false, if_true, he, hx, hc]
  have ofNat : ∀ n, c.toNat = n → c = Char.ofNat n := fun n h => h ▸ (Char.ofNat_toNat c).symm
  -- `escChar`: seven two-character escapes, `\uXXXX`, the character itself
  fun_cases escChar c
  · exact esc _ _ ‹_› (by decide) (by decide)
  · exact esc _ _ ‹_› (by decide) (by decide)
  · exact esc 'b' _ (ofNat 8 ‹_›) (by decide) (by decide)
  · exact esc 'f' _ (ofNat 12 ‹_›) (by decide) (by decide)
  · exact esc _ _ ‹_› (by decide) (by decide)
  · exact esc _ _ ‹_› (by decide) (by decide)
  · exact esc _ _ ‹_› (by decide) (by decide)
  · rename_i h
    -- control characters, `<`, `>`, `&`, U+2028, U+2029: all below 2^16
    have hn : c.toNat < 65536 := by
      simp only [Bool.or_eq_true, decide_eq_true_eq] at h
      rcases h with ((((h | h) | h) | h) | h) | h
      · omega
      · subst h; decide
      · subst h; decide
      · subst h; decide
      · omega
      · omega
    rw [strUnits_u4 _ hn, mkUnit_char]
  · rename_i h1 h2 _ _ _ _ _ h
    simp only [Bool.or_eq_true, decide_eq_true_eq, not_or] at h
    exact strUnits_plain c h1 h2 h.1.1.1.1.1 tail

theorem strUnits_escItem (it : Option Char) (tail : Text) :
    strUnits (escItem it ++ tail) = pushUnit (.ch (it.getD Utf8.replacement)) (strUnits tail) := by
  cases it with
  | some c => exact strUnits_escChar c tail
  | none =>
    simp only [escItem, Option.getD_none]
    rw [strUnits_u4 _ (by decide)]
    rfl

theorem strUnits_items (s : List (Option Char)) (rest : Text) :
    strUnits (s.flatMap escItem ++ '"' :: rest)
      = some ((s.map (·.getD Utf8.replacement)).map U16.ch, rest) := by
  induction s with
  | nil => exact strUnits_quote rest
  | cons it s ih =>
    simp only [List.flatMap_cons, List.append_assoc, strUnits_escItem, ih, pushUnit, List.map_cons]

theorem combineAux_ch (s : Text) : combineAux none (s.map U16.ch) = s := by
  induction s with
  | nil => rfl
  | cons c s ih => simp only [List.map_cons, combineAux, ih]

/-- String literal round trip for any Go string: each offending byte comes back as U+FFFD. -/
theorem parseStr_items (s : List (Option Char)) (rest : Text) :
    parseStr (s.flatMap escItem ++ '"' :: rest) = some (s.map (·.getD Utf8.replacement), rest) := by
  simp only [parseStr, strUnits_items, combine, combineAux_ch]

theorem renderStr_eq (s : Text) : renderStr s = renderItems (ofText s) := by
  simp only [renderItems, ofText, List.flatMap_map]
  rfl

theorem map_getD_some (s : Text) : s.map ((fun x => x.getD Utf8.replacement) ∘ some) = s :=
  List.map_id s

theorem getD_ofText (s : Text) : (ofText s).map (·.getD Utf8.replacement) = s := by
  simp only [ofText, List.map_map]; exact map_getD_some s

theorem parseStr_renderStr (s rest : Text) :
    parseStr (s.flatMap escChar ++ '"' :: rest) = some (s, rest) := by
  have := parseStr_items (ofText s) rest
  rw [getD_ofText] at this
  simp only [ofText, List.flatMap_map] at this
  exact this

theorem isDigit_digitChar : ∀ n, n < 10 → isDigit (digitChar n) = true := by decide

theorem digitChar_val : ∀ n, n < 10 → (digitChar n).toNat - 48 = n := by decide

theorem digitChar_ne_zero : ∀ n, n < 10 → n ≠ 0 → digitChar n ≠ '0' := by decide

theorem decVal_append (ds : Text) (c : Char) : decVal (ds ++ [c]) = decVal ds * 10 + (c.toNat - 48) := by
  simp [decVal]

/-- The decimal form of `n`: digits, the first of them not `0` unless `n = 0`, that denote `n`. -/
theorem decFuel_spec (f n : Nat) (h : n < f) : ∃ d ds, decFuel f n = d :: ds ∧
    (∀ c ∈ d :: ds, isDigit c = true) ∧ (0 < n → d ≠ '0') ∧ decVal (d :: ds) = n := by
  fun_induction decFuel f n with
  | case1 => omega
  | case2 f n h10 =>
    exact ⟨_, [], rfl, by simpa using isDigit_digitChar n h10, fun hp => digitChar_ne_zero n h10 (by omega),
      by simpa [decVal] using digitChar_val n h10⟩
  | case3 f n h10 ih =>
    have hm : n % 10 < 10 := Nat.mod_lt _ (by decide)
    obtain ⟨d, ds, he, hd, h0, hv⟩ := ih (by omega)
    refine ⟨d, ds ++ [digitChar (n % 10)], by rw [he]; rfl, ?_, fun _ => h0 (by omega), ?_⟩
    · rw [← List.cons_append]
      exact List.forall_mem_append.2 ⟨hd, List.forall_mem_singleton.2 (isDigit_digitChar _ hm)⟩
    · rw [← List.cons_append, decVal_append, hv, digitChar_val _ hm]; omega

theorem natToDec_spec (n : Nat) : ∃ d ds, natToDec n = d :: ds ∧
    (∀ c ∈ d :: ds, isDigit c = true) ∧ (0 < n → d ≠ '0') ∧ decVal (d :: ds) = n :=
  decFuel_spec (n + 1) n (Nat.lt_succ_self n)

theorem natToDec_zero : natToDec 0 = ['0'] := by decide

/-- what may follow a number literal without being swallowed by it -/
def NumStop : Text → Prop
  | [] => True
  | c :: _ => isDigit c = false ∧ c ≠ '.' ∧ c ≠ 'e' ∧ c ≠ 'E'

theorem spanDigits_append (ds rest : Text) (hd : ∀ c ∈ ds, isDigit c = true) (hs : NumStop rest) :
    spanDigits (ds ++ rest) = (ds, rest) := by
  induction ds with
  | nil =>
    cases rest with
    | nil => rfl
    | cons c r => simp only [NumStop] at hs; simp [spanDigits, hs.1]
  | cons d ds ih =>
    have h1 : isDigit d = true := hd d (List.mem_cons_self ..)
    have h2 := ih (fun c hc => hd c (List.mem_cons_of_mem _ hc))
    simp [spanDigits, h1, h2]

theorem numFrac_stop (rest : Text) (hs : NumStop rest) : numFrac rest = some ([], rest) := by
  cases rest with
  | nil => rfl
  | cons c r => simp only [NumStop] at hs; simp [numFrac, hs.2.1]

theorem numExp_stop (rest : Text) (hs : NumStop rest) : numExp rest = some ([], rest) := by
  cases rest with
  | nil => rfl
  | cons c r => simp only [NumStop] at hs; simp [numExp, hs.2.2.1, hs.2.2.2]

theorem numUnsigned_natToDec (n : Nat) (rest : Text) (hs : NumStop rest) :
    numUnsigned (natToDec n ++ rest) = some (natToDec n, rest) := by
  by_cases h0 : n = 0
  · subst h0
    simp [natToDec_zero, numUnsigned, numInt, numFrac_stop rest hs, numExp_stop rest hs]
  · obtain ⟨d, ds, he, hall, hd, _⟩ := natToDec_spec n
    rw [he]
    have hds : ∀ c ∈ ds, isDigit c = true := fun c hc => hall c (List.mem_cons_of_mem _ hc)
    simp [numUnsigned, numInt, hd (by omega), hall d (.head _), spanDigits_append ds rest hds hs, numFrac_stop rest hs,
      numExp_stop rest hs]

theorem isDigit_ne {c : Char} (h : isDigit c = true) (x : Char) (hx : isDigit x = false) : c ≠ x := by
  intro e; subst e; rw [h] at hx; cases hx

theorem numLit_renderInt (i : Int) (rest : Text) (hs : NumStop rest) :
    numLit (renderInt i ++ rest) = some (renderInt i, rest) := by
  unfold renderInt
  split
  · simp [numLit, numUnsigned_natToDec _ rest hs]
  · obtain ⟨d, ds, he, hd, _⟩ := natToDec_spec i.natAbs
    have hne : d ≠ '-' := isDigit_ne (hd d (.head _)) '-' (by decide)
    have := numUnsigned_natToDec i.natAbs rest hs
    rw [he] at this ⊢
    simp only [List.cons_append] at this ⊢
    simp [numLit, hne, this]

theorem parseInt64_digits {ds : Text} (hne : ds ≠ []) (hd : ∀ c ∈ ds, isDigit c = true) :
    parseInt64 ('-' :: ds) = (if decVal ds ≤ 2 ^ 63 then some (-(decVal ds : Int)) else none) ∧
    parseInt64 ds = (if decVal ds < 2 ^ 63 then some (decVal ds : Int) else none) := by
  have hall : ds.all isDigit = true := List.all_eq_true.2 hd
  cases ds with
  | nil => exact absurd rfl hne
  | cons d ds' =>
    refine ⟨by simp only [parseInt64, hall, List.isEmpty_cons, Bool.not_false, Bool.true_and, decide_eq_true_eq], ?_⟩
    have hd0 : d ≠ '-' := isDigit_ne (hd d (.head _)) '-' (by decide)
    unfold parseInt64
    split
    · rename_i heq; exact absurd (List.cons.inj heq).1 hd0
    · simp only [hall, List.isEmpty_cons, Bool.not_false, Bool.true_and, decide_eq_true_eq]

theorem parseInt64_renderInt (i : Int) (hlo : -(2 ^ 63 : Int) ≤ i) (hhi : i < (2 ^ 63 : Int)) :
    parseInt64 (renderInt i) = some i := by
  obtain ⟨d, ds, he, hd, _, hv⟩ := natToDec_spec i.natAbs
  obtain ⟨hneg, hpos⟩ := parseInt64_digits (List.cons_ne_nil d ds) hd
  rw [hv, ← he] at hneg hpos
  unfold renderInt
  split
  · rw [hneg, if_pos (by omega)]
    congr 1; omega
  · rw [hpos, if_pos (by omega)]
    congr 1; omega

theorem skipWs_cons (c : Char) {r : Text} (h : isWs c = false) : skipWs (c :: r) = c :: r := by
  simp [skipWs, h]

theorem isWs_digit {c : Char} (h : isDigit c = true) : isWs c = false := by
  simp only [isWs, Bool.or_eq_false_iff, decide_eq_false_iff_not]
  refine ⟨⟨⟨?_, ?_⟩, ?_⟩, ?_⟩ <;> exact isDigit_ne h _ (by decide)

theorem renderInt_head (i : Int) : ∃ c r, renderInt i = c :: r ∧ (c = '-' ∨ isDigit c = true) := by
  unfold renderInt
  split
  · exact ⟨'-', _, rfl, Or.inl rfl⟩
  · obtain ⟨d, ds, he, hd, _⟩ := natToDec_spec i.natAbs
    exact ⟨d, ds, he, Or.inr (hd d (.head _))⟩

theorem value_str (f d : Nat) (s : List (Option Char)) (rest : Text) :
    value (f + 1) d (renderItems s ++ rest) = some (.str (s.map (·.getD Utf8.replacement)), rest) := by
  simp only [renderItems, List.cons_append, List.append_assoc, List.nil_append]
  rw [value.eq_def]
  simp only [parseStr_items, if_true]

theorem value_int (f d : Nat) (i : Int) (rest : Text) (hs : NumStop rest) :
    value (f + 1) d (renderInt i ++ rest) = some (.num (renderInt i), rest) := by
  obtain ⟨c, r, he, hc⟩ := renderInt_head i
  have hn := numLit_renderInt i rest hs
  rw [he] at hn ⊢
  simp only [List.cons_append] at hn ⊢
  have h1 : c ≠ '"' ∧ c ≠ '{' ∧ c ≠ '[' ∧ c ≠ 't' ∧ c ≠ 'f' ∧ c ≠ 'n' := by
    rcases hc with hc | hc
    · subst hc; decide
    · exact ⟨isDigit_ne hc _ (by decide), isDigit_ne hc _ (by decide), isDigit_ne hc _ (by decide),
        isDigit_ne hc _ (by decide), isDigit_ne hc _ (by decide), isDigit_ne hc _ (by decide)⟩
  rw [value.eq_def]
  simp only [h1.1, h1.2.1, h1.2.2.1, h1.2.2.2.1, h1.2.2.2.2.1, h1.2.2.2.2.2, if_false, hn]

theorem value_null (f d : Nat) (rest : Text) :
    value (f + 1) d ('n' :: 'u' :: 'l' :: 'l' :: rest) = some (.null, rest) := by
  rw [value.eq_def]
  simp

theorem value_render (v : MVal) (f d : Nat) (rest : Text) (hs : NumStop rest) :
    value (f + 1) d (v.render ++ rest) = some (v.toJson, rest) := by
  cases v with
  | str s => exact value_str f d s _
  | int i => exact value_int f d i _ hs
  | null => exact value_null f d _

theorem skipWs_render (v : MVal) (tail : Text) : skipWs (v.render ++ tail) = v.render ++ tail := by
  cases v with
  | str s => exact skipWs_cons '"' (by decide)
  | int i =>
    obtain ⟨c, r, he, hc⟩ := renderInt_head i
    rw [show (MVal.int i).render = c :: r from he]
    refine skipWs_cons c ?_
    rcases hc with hc | hc
    · subst hc; decide
    · exact isWs_digit hc
  | null => exact skipWs_cons 'n' (by decide)

/-- a written member as the parser delivers it -/
def toJsonKV (kv : Text × MVal) : Text × Json := (kv.1, kv.2.toJson)

theorem renderMembers_cons (k : Text) (v : MVal) (tail : List (Text × MVal)) (rest : Text) :
    renderMembers ((k, v) :: tail) ++ '}' :: rest
      = '"' :: (k.flatMap escChar ++ '"' :: ':' :: (v.render ++
          (match tail with
           | [] => '}' :: rest
           | _ :: _ => ',' :: (renderMembers tail ++ '}' :: rest)))) := by
  cases tail <;> simp [renderMembers, renderStr]

theorem members_render : ∀ (kvs : List (Text × MVal)), kvs ≠ [] → ∀ (f d : Nat) (rest : Text),
    kvs.length < f →
    members f d (renderMembers kvs ++ '}' :: rest) = some (kvs.map toJsonKV, rest) := by
  intro kvs
  induction kvs with
  | nil => intro h; exact absurd rfl h
  | cons kv tail ih =>
    intro _ f d rest hf
    obtain ⟨k, v⟩ := kv
    -- `members` spends one unit of fuel and hands the rest to `value`, which needs one
    obtain ⟨f, rfl⟩ : ∃ g, f = g + 2 := ⟨f - 2, by simp only [List.length_cons] at hf; omega⟩
    rw [renderMembers_cons, members.eq_def]
    simp only [if_true, parseStr_renderStr]
    rw [skipWs_cons ':' (by decide)]
    cases tail with
    | nil =>
      simp only [skipWs_render, value_render v f d ('}' :: rest) ⟨by decide, by decide, by decide, by decide⟩]
      rw [skipWs_cons '}' (by decide)]
      simp [toJsonKV]
    | cons kv2 tail2 =>
      simp only [skipWs_render, value_render v f d (',' :: _) ⟨by decide, by decide, by decide, by decide⟩]
      rw [skipWs_cons ',' (by decide)]
      have e2 : skipWs (renderMembers (kv2 :: tail2) ++ '}' :: rest)
          = renderMembers (kv2 :: tail2) ++ '}' :: rest := by
        rw [renderMembers_cons]; exact skipWs_cons '"' (by decide)
      simp only [if_true, e2]
      rw [ih (by simp) (f + 1) d rest (by simp only [List.length_cons] at hf ⊢; omega)]
      simp [toJsonKV]

theorem renderMembers_length (kvs : List (Text × MVal)) : kvs.length ≤ (renderMembers kvs).length := by
  induction kvs with
  | nil => simp [renderMembers]
  | cons kv tail ih =>
    cases tail with
    | nil => simp [renderMembers, renderStr]
    | cons kv2 t2 =>
      simp only [renderMembers, List.length_cons, List.length_append] at ih ⊢
      omega

theorem parse_object (kvs : List (Text × MVal)) :
    parse ('{' :: (renderMembers kvs ++ ['}'])) = some (.obj (kvs.map toJsonKV)) := by
  unfold parse
  rw [skipWs_cons '{' (by decide)]
  rw [value.eq_def]
  simp only [show ('{' = '"') = False by decide, if_false, if_true,
    show (maxDepth < 0 + 1) = False by decide]
  cases kvs with
  | nil => simp [renderMembers, skipWs_cons '}' (by decide), skipWs]
  | cons kv tail =>
    obtain ⟨k, v⟩ := kv
    rw [renderMembers_cons, skipWs_cons '"' (by decide)]
    simp only [show ('"' = '}') = False by decide, if_false]
    rw [← renderMembers_cons]
    rw [members_render ((k, v) :: tail) (by simp) _ 1 []
      (by have := renderMembers_length ((k, v) :: tail); simp only [List.length_cons, List.length_append] at this ⊢; omega)]
    simp [skipWs]

theorem parse_marshalObj (fs : List MField) :
    parse (marshalObj fs) = some (.obj ((keptFields fs).map toJsonKV)) := parse_object _

end Snowflake.Json
