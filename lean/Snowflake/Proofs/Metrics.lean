import Snowflake.Model.Metrics
/-!
The repaired `Inc` is handled by an inductive invariant of the interleaving model; the event counters are
additive in the request list; the per-period address sets and the journal merge are folds of `insertNew`.
-/
namespace Snowflake.Metrics

theorem roundedOK_iff (t v : Nat) : RoundedOK t v ↔ v = ceil8 t := by
  unfold RoundedOK ceil8; omega

theorem roundedOK_ceil8 (n : Nat) : RoundedOK n (ceil8 n) := (roundedOK_iff n _).2 rfl

/-- `ceil8` obeys the recurrence that `Inc` computes. -/
theorem ceil8_succ (n : Nat) : ceil8 (n + 1) = if n + 1 > ceil8 n then ceil8 n + 8 else ceil8 n := by
  unfold ceil8; split <;> omega

theorem inc_exact (n : Nat) : (⟨n, ceil8 n⟩ : RC).inc = ⟨n + 1, ceil8 (n + 1)⟩ := by
  simp only [RC.inc, incGuard, incStep, ceil8_succ, decide_eq_true_eq]
  split <;> rfl

theorem incN_exact (k : Nat) : ∀ n, RC.incN k ⟨n, ceil8 n⟩ = ⟨n + k, ceil8 (n + k)⟩ := by
  induction k with
  | zero => intro n; rfl
  | succ k ih =>
    intro n
    rw [RC.incN, inc_exact, ih, Nat.add_right_comm, Nat.add_assoc]

@[simp] theorem upd_same {α : Type} {n : Nat} (f : Fin n → α) (t : Fin n) (v : α) : upd f t v t = v := by
  simp [upd]

theorem upd_other {α : Type} {n : Nat} (f : Fin n → α) (t u : Fin n) (v : α) (h : u ≠ t) :
    upd f t v u = f u := by
  simp [upd, h]

/-- The data relation while thread `h` holds the mutex, by its program counter. -/
def HolderRel (total value done : Nat) : Pc → Prop
  | .idle => False
  | .locked => value = ceil8 total ∧ total = done
  | .added => value = ceil8 (total - 1) ∧ total = done + 1
  | .readTotal tt => tt = total ∧ value = ceil8 (total - 1) ∧ total = done + 1
  | .willAdd => value = ceil8 (total - 1) ∧ total > value ∧ total = done + 1
  | .unlocking => value = ceil8 total ∧ total = done + 1

/-- `excl`: only the mutex holder is inside `Inc`.  `data`: while the mutex is free the counter is exact; while it
is held, the shared words stand in `HolderRel` at the holder's program point. -/
structure Inv {n : Nat} (s : St n) : Prop where
  excl : ∀ t, s.pc t ≠ .idle → s.lock = some t
  data : match s.lock with
    | none => s.value = ceil8 s.total ∧ s.total = s.done
    | some h => HolderRel s.total s.value s.done (s.pc h)

theorem inv_init (n : Nat) : Inv (St.init n) := by
  constructor
  · intro t h; simp [St.init] at h
  · simp [St.init, ceil8]

theorem Inv.holder {n : Nat} {s : St n} {t : Fin n} (hinv : Inv s) (hpc : s.pc t ≠ .idle) :
    s.lock = some t ∧ (∀ u, u ≠ t → s.pc u = .idle) ∧ HolderRel s.total s.value s.done (s.pc t) := by
  have hl := hinv.excl t hpc
  have hd := hinv.data
  rw [hl] at hd
  exact ⟨hl, fun u hut => Decidable.not_not.1 fun hne => hut (Option.some.inj ((hinv.excl u hne).symm.trans hl)), hd⟩

theorem eq_of_upd_ne_idle {n : Nat} {pc : Fin n → Pc} {t : Fin n} (hidle : ∀ u, u ≠ t → pc u = .idle) {p : Pc}
    {u : Fin n} (hu : upd pc t p u ≠ .idle) : u = t :=
  Decidable.not_not.1 fun hut => hu ((upd_other _ _ _ _ hut).trans (hidle u hut))

theorem inv_of_holder {n : Nat} {pc : Fin n → Pc} {t : Fin n} {p : Pc} {total value done : Nat}
    (hidle : ∀ u, u ≠ t → pc u = .idle) (hrel : HolderRel total value done p) :
    Inv ⟨total, value, some t, upd pc t p, done⟩ :=
  ⟨fun _ hu => congrArg some (eq_of_upd_ne_idle hidle hu).symm, by simp only [upd_same]; exact hrel⟩

theorem pred_succ_ceil {a : Nat} (h : 0 < a) : a - 1 + 1 = a := by omega

/-- `ceil8_succ`, read at the second of two consecutive numbers -/
theorem ceil8_of_pred {t v : Nat} (ht : 0 < t) (hv : v = ceil8 (t - 1)) : ceil8 t = if t > v then v + 8 else v := by
  have h := ceil8_succ (t - 1)
  rwa [pred_succ_ceil ht, ← hv] at h

theorem inv_step {n : Nat} (s : St n) (t : Fin n) (hinv : Inv s) : Inv (step true s t) := by
  unfold step
  by_cases hpc : s.pc t = .idle
  · simp only [hpc, if_true]
    cases hl : s.lock with
    | some h => simpa using hinv
    | none =>
      -- the mutex is free, so everybody is idle, and `t` takes it
      have hd := hinv.data
      rw [hl] at hd
      exact inv_of_holder (fun u _ => Decidable.not_not.1 fun hne => by cases (hinv.excl u hne).symm.trans hl) hd
  · obtain ⟨hl, hidle, hd⟩ := hinv.holder hpc
    rw [hl]
    generalize s.pc t = p at hd hpc
    cases p with
    | idle => exact absurd rfl hpc
    | locked =>
      refine inv_of_holder hidle ?_
      simp only [HolderRel, Nat.add_sub_cancel] at hd ⊢; omega
    | added => exact inv_of_holder (p := .readTotal _) hidle ⟨rfl, hd⟩
    | readTotal tt =>
      obtain ⟨htt, hv, hdone⟩ := hd
      cases hg : incGuard tt s.value with
      | true =>
        simp only [hg, if_true]
        simp only [incGuard, decide_eq_true_eq] at hg
        exact inv_of_holder (p := .willAdd) hidle ⟨hv, by omega, hdone⟩
      | false =>
        simp only [hg, finish, if_true, Bool.false_eq_true, if_false, hl]
        simp only [incGuard, decide_eq_false_iff_not] at hg
        exact inv_of_holder (p := .unlocking) hidle ⟨((ceil8_of_pred (by omega) hv).trans (if_neg (by omega))).symm, hdone⟩
    | willAdd =>
      obtain ⟨hv, hgt, hdone⟩ := hd
      exact inv_of_holder (p := .unlocking) hidle ⟨((ceil8_of_pred (by omega) hv).trans (if_pos hgt)).symm, hdone⟩
    | unlocking => exact ⟨fun u hu => absurd (eq_of_upd_ne_idle hidle hu ▸ upd_same ..) hu, hd⟩

theorem inv_run {n : Nat} (sched : List (Fin n)) : ∀ s : St n, Inv s → Inv (run true sched s) := by
  induction sched with
  | nil => intro s h; exact h
  | cons t ts ih => intro s h; exact ih _ (inv_step s t h)

theorem quiescent_lock_free {n : Nat} {s : St n} (hinv : Inv s) (hq : Quiescent s) : s.lock = none := by
  cases hl : s.lock with
  | none => rfl
  | some h =>
    have hd : HolderRel s.total s.value s.done (s.pc h) := by simpa only [hl] using hinv.data
    rw [hq h] at hd
    exact hd.elim

def cnt (k : Nat) (reqs : List Req) : Nat := (reqs.filter (hits k)).length

theorem cnt_nil (k : Nat) : cnt k [] = 0 := rfl

/-- in the order of `Counters.toList` -/
def trueCounts (reqs : List Req) : List Nat :=
  [cnt 0 reqs, cnt 1 reqs, cnt 2 reqs, cnt 3 reqs, cnt 4 reqs, cnt 5 reqs, cnt 6 reqs, cnt 7 reqs]

theorem zipWith_add_assoc (a b c : List Nat) :
    List.zipWith (· + ·) (List.zipWith (· + ·) a b) c = List.zipWith (· + ·) a (List.zipWith (· + ·) b c) := by
  induction a generalizing b c with
  | nil => simp
  | cons x a ih => cases b <;> cases c <;> simp [ih, Nat.add_assoc]

theorem trueCounts_append (a b : List Req) :
    trueCounts (a ++ b) = List.zipWith (· + ·) (trueCounts a) (trueCounts b) := by
  simp only [trueCounts, cnt, List.filter_append, List.length_append]
  rfl

/-- `Counters.apply` and the declarative table `hits` agree, case by case. -/
theorem apply_toList (c : Counters) (r : Req) :
    (c.apply r).toList = List.zipWith (· + ·) c.toList (trueCounts [r]) := by
  cases r with
  | poll ext out => cases ext <;> cases out <;> rfl
  | client unr out => cases unr <;> cases out <;> rfl

theorem foldl_apply_toList (reqs : List Req) : ∀ c : Counters,
    (reqs.foldl Counters.apply c).toList = List.zipWith (· + ·) c.toList (trueCounts reqs) := by
  induction reqs with
  | nil => intro c; rfl
  | cons r rs ih =>
    intro c
    rw [List.foldl_cons, ih, apply_toList, zipWith_add_assoc, ← trueCounts_append]
    rfl

theorem foldl_op_sinceZero (ops : List Op) : ∀ acc : List Req,
    ops.foldl Counters.op (acc.foldl Counters.apply Counters.zero)
      = (sinceZero ops acc).foldl Counters.apply Counters.zero := by
  induction ops with
  | nil => intro acc; rfl
  | cons o os ih =>
    intro acc
    cases o with
    | ev r =>
      simp only [List.foldl_cons, Counters.op, sinceZero]
      rw [← ih (acc ++ [r]), List.foldl_append]
      rfl
    | zero =>
      exact ih []

theorem mem_insertNew {α : Type} [DecidableEq α] (a x : α) (l : List α) :
    x ∈ insertNew a l ↔ x = a ∨ x ∈ l := by
  unfold insertNew
  split
  · exact ⟨Or.inr, fun h => h.elim (fun e => e ▸ ‹a ∈ l›) id⟩
  · rw [List.mem_append, List.mem_singleton, or_comm]

theorem nodup_insertNew {α : Type} [DecidableEq α] (a : α) (l : List α) (hl : l.Nodup) :
    (insertNew a l).Nodup := by
  unfold insertNew
  split
  · exact hl
  · rename_i h
    simpa [List.nodup_append, hl] using fun x hx (e : x = a) => h (e ▸ hx)

theorem mem_foldl_insertNew {α β : Type} [DecidableEq α] (f : β → α) (vals : List β) :
    ∀ (acc : List α) (x : α),
      x ∈ vals.foldl (fun a v => insertNew (f v) a) acc ↔ x ∈ acc ∨ ∃ v ∈ vals, x = f v := by
  induction vals with
  | nil => intro acc x; simp
  | cons v vs ih =>
    intro acc x
    rw [List.foldl_cons, ih, mem_insertNew, or_assoc, or_left_comm]
    simp only [List.mem_cons, exists_eq_or_imp]

theorem nodup_foldl_insertNew {α β : Type} [DecidableEq α] (f : β → α) (vals : List β) :
    ∀ acc : List α, acc.Nodup → (vals.foldl (fun a v => insertNew (f v) a) acc).Nodup :=
  fun _ h => List.foldlRecOn vals _ h fun a ha v _ => nodup_insertNew (f v) a ha

theorem mem_merge (vals acc : List Nat) (x : Nat) : x ∈ merge acc vals ↔ x ∈ acc ∨ x ∈ vals := by
  simpa [merge] using mem_foldl_insertNew id vals acc x

theorem nodup_merge (vals acc : List Nat) : acc.Nodup → (merge acc vals).Nodup :=
  nodup_foldl_insertNew id vals acc

theorem skipped_iff (frm to : Nat) (c : Chunk) : c.skipped frm to = true ↔ ¬ c.inWindow frm to := by
  unfold Chunk.skipped skipCond Chunk.inWindow
  simp only [Bool.or_eq_true, Bool.and_eq_true, decide_eq_true_eq, Bool.not_eq_true', beq_eq_false_iff_ne]
  omega

def selected (frm to : Nat) (journal : List Chunk) : List Chunk :=
  journal.filter (fun c => decide (c.inWindow frm to))

theorem countLoop_eq (frm to : Nat) (cs : List Chunk) : ∀ (acc : List Nat) (k : Nat),
    countLoop frm to cs (acc, k) =
      (merge acc ((selected frm to cs).flatMap (·.vals)), k + (selected frm to cs).length) := by
  induction cs with
  | nil => intro acc k; rfl
  | cons c cs ih =>
    intro acc k
    by_cases hw : c.inWindow frm to
    · have hs : c.skipped frm to = false := by
        rw [← Bool.not_eq_true, skipped_iff]; exact fun h => h hw
      simp only [countLoop, hs, Bool.false_eq_true, if_false, ih, selected, List.filter_cons, hw, decide_true,
        if_true, List.flatMap_cons, List.length_cons, merge, List.foldl_append]
      rw [Nat.add_assoc, Nat.add_comm 1]
    · have hs : c.skipped frm to = true := (skipped_iff frm to c).2 hw
      simp [countLoop, hs, ih, selected, hw]

theorem countLoop_spec (frm to : Nat) (cs : List Chunk) (acc : List Nat) (k : Nat) :
    (countLoop frm to cs (acc, k)).2 = k + (selected frm to cs).length
    ∧ (acc.Nodup → (countLoop frm to cs (acc, k)).1.Nodup)
    ∧ (∀ x, x ∈ (countLoop frm to cs (acc, k)).1 ↔ x ∈ acc ∨ ∃ c ∈ cs, c.inWindow frm to ∧ x ∈ c.vals) := by
  rw [countLoop_eq]
  refine ⟨rfl, nodup_merge _ _, fun x => ?_⟩
  simp only [mem_merge, List.mem_flatMap, selected, List.mem_filter, decide_eq_true_eq, and_assoc]

theorem scan_ok (limit : Nat) (lines : List Line) :
    (scan limit lines).2 = false → (scan limit lines).1 = lines.map (·.chunk) := by
  fun_induction scan limit lines <;> simp_all +zetaDelta

theorem scan_err (limit : Nat) (lines : List Line) :
    (scan limit lines).2 = true ↔ ∃ l ∈ lines, l.len > limit := by
  fun_induction scan limit lines <;> simp_all +zetaDelta
  exact fun h => absurd h (Nat.not_lt.2 ‹_›)

theorem run_mask {α : Type} (m : α → Nat) (interval : Nat) (ops : List (WOp α)) (w : Writer) :
    Writer.run m interval w ops = Writer.run id interval w (ops.map (WOp.mask m)) := by
  rw [Writer.run, Writer.run, List.foldl_map]
  congr; funext w o
  cases o <;> rfl

def Writer.Clean (w : Writer) : Prop := w.cur.Nodup ∧ ∀ c ∈ w.journal, c.vals.Nodup

theorem clean_flush {w : Writer} (now : Nat) (h : w.Clean) : (w.flush now).Clean := by
  refine ⟨List.nodup_nil, fun c hc => ?_⟩
  rcases List.mem_append.1 hc with hc | hc
  · exact h.2 c hc
  · cases List.mem_singleton.1 hc; exact h.1

theorem clean_add (interval : Nat) (w : Writer) (now v : Nat) (h : w.Clean) : (w.add interval now v).Clean := by
  unfold Writer.add
  split
  · exact ⟨nodup_insertNew _ _ (clean_flush now h).1, (clean_flush now h).2⟩
  · exact ⟨nodup_insertNew _ _ h.1, h.2⟩

theorem clean_run {α : Type} (m : α → Nat) (interval : Nat) (ops : List (WOp α)) :
    ∀ w : Writer, w.Clean → (Writer.run m interval w ops).Clean :=
  fun _ h => List.foldlRecOn ops _ h fun w h o _ => by
    cases o with
    | add now ip => exact clean_add interval w now (m ip) h
    | flush now => exact clean_flush now h

theorem update_seen (geo : Bool) (s : Stats) (u : Upd) :
    (s.update geo u).seen = insertNew (bucket u.ty, u.addr) s.seen := by
  simp only [Stats.update, insertNew, apply_ite Stats.seen, ite_self]
  split <;> rfl

theorem foldl_update_seen (geo : Bool) (us : List Upd) : ∀ s : Stats,
    (us.foldl (Stats.update geo) s).seen = us.foldl (fun l u => insertNew (bucket u.ty, u.addr) l) s.seen := by
  induction us with
  | nil => intro s; rfl
  | cons u us ih => intro s; rw [List.foldl_cons, ih, update_seen]; rfl

theorem seen_nodup (geo : Bool) (us : List Upd) : (Stats.run geo us).seen.Nodup := by
  rw [Stats.run, foldl_update_seen]
  exact nodup_foldl_insertNew _ us [] List.nodup_nil

theorem mem_seen (geo : Bool) (us : List Upd) (b : Option Str) (a : Nat) :
    (b, a) ∈ (Stats.run geo us).seen ↔ ∃ u ∈ us, bucket u.ty = b ∧ u.addr = a := by
  rw [Stats.run, foldl_update_seen, mem_foldl_insertNew]
  simp [Stats.empty, eq_comm]

theorem mem_typeSet (s : Stats) (b : Option Str) (a : Nat) : a ∈ s.typeSet b ↔ (b, a) ∈ s.seen := by
  simp [Stats.typeSet]

/-- Within one bucket the pairs differ in their addresses. -/
theorem nodup_typeSet {s : Stats} (h : s.seen.Nodup) (b : Option Str) : (s.typeSet b).Nodup := by
  unfold Stats.typeSet List.Nodup
  rw [List.pairwise_map]
  refine List.Pairwise.imp_of_mem ?_ (h.sublist List.filter_sublist)
  intro x y hx hy hne hxy
  rw [List.mem_filter, decide_eq_true_eq] at hx hy
  exact hne (Prod.ext (hx.2.trans hy.2.symm) hxy)

/-- One of the three NAT sets of `CountryStats` after the updates `us`; `P` is the class of NAT types it collects. -/
def NatSet (us : List Upd) (P : Upd → Prop) (l : List Nat) : Prop :=
  l.Nodup ∧ ∀ a ∈ l, ∃ u ∈ us, u.addr = a ∧ P u

theorem NatSet.keep {us : List Upd} {P : Upd → Prop} {l : List Nat} (h : NatSet us P l) (u : Upd) :
    NatSet (us ++ [u]) P l :=
  ⟨h.1, fun a ha => let ⟨x, hx, hp⟩ := h.2 a ha; ⟨x, List.mem_append_left _ hx, hp⟩⟩

theorem NatSet.insert {us : List Upd} {P : Upd → Prop} {l : List Nat} (h : NatSet us P l) {u : Upd} (hp : P u) :
    NatSet (us ++ [u]) P (insertNew u.addr l) :=
  ⟨nodup_insertNew _ _ h.1, fun a ha => ((mem_insertNew _ _ _).1 ha).elim
    (fun e => ⟨u, by simp, e.symm, hp⟩) ((h.keep u).2 a)⟩

/-- Invariant of `Stats.update` along `us`.  `ccs` and `natCover` need a geoip database (`geo`): without one
`UpdateCountryStats` returns before the country and NAT bookkeeping. -/
structure StatsInv (geo : Bool) (s : Stats) (us : List Upd) : Prop where
  ccs : geo = true → s.ccs.length = s.seen.length
  natR : NatSet us (·.nat = natRestricted) s.natR
  natU : NatSet us (·.nat = natUnrestricted) s.natU
  natX : NatSet us (fun u => u.nat ≠ natRestricted ∧ u.nat ≠ natUnrestricted) s.natX
  natCover : geo = true → ∀ b a, (b, a) ∈ s.seen → a ∈ s.natR ∨ a ∈ s.natU ∨ a ∈ s.natX

theorem statsInv_empty (geo : Bool) : StatsInv geo Stats.empty [] := by
  constructor <;> simp [Stats.empty, NatSet]

theorem statsInv_update {geo : Bool} {s : Stats} {us : List Upd} (u : Upd) (h : StatsInv geo s us) :
    StatsInv geo (s.update geo u) (us ++ [u]) := by
  unfold Stats.update
  by_cases hs : (bucket u.ty, u.addr) ∈ s.seen
  · simp only [hs, if_true]
    exact ⟨h.ccs, h.natR.keep u, h.natU.keep u, h.natX.keep u, h.natCover⟩
  · simp only [hs, if_false]
    cases geo with
    | false =>
      exact ⟨by simp, h.natR.keep u, h.natU.keep u, h.natX.keep u, by simp⟩
    | true =>
      simp only [Bool.not_true, Bool.false_eq_true, if_false]
      have hcc : (s.ccs ++ [u.cc]).length = (s.seen ++ [(bucket u.ty, u.addr)]).length := by
        simp only [List.length_append, List.length_singleton, h.ccs rfl]
      -- the cover clause, for whichever of the three sets `R`, `U`, `X` received the address
      have hcov {R U X : List Nat} (hR : s.natR ⊆ R) (hU : s.natU ⊆ U) (hX : s.natX ⊆ X)
          (hnew : u.addr ∈ R ∨ u.addr ∈ U ∨ u.addr ∈ X) :
          ∀ b a, (b, a) ∈ s.seen ++ [(bucket u.ty, u.addr)] → a ∈ R ∨ a ∈ U ∨ a ∈ X := by
        intro b a hba
        rcases List.mem_append.1 hba with hba | hba
        · exact (h.natCover rfl b a hba).imp (hR ·) (Or.imp (hU ·) (hX ·))
        · cases List.mem_singleton.1 hba; exact hnew
      have hin (l : List Nat) : l ⊆ insertNew u.addr l := fun a ha => (mem_insertNew _ _ _).2 (Or.inr ha)
      have hself (l : List Nat) : u.addr ∈ insertNew u.addr l := (mem_insertNew _ _ _).2 (Or.inl rfl)
      by_cases hr : u.nat = natRestricted
      · simp only [hr, if_true]
        exact ⟨fun _ => hcc, h.natR.insert hr, h.natU.keep u, h.natX.keep u,
          fun _ => hcov (hin _) (List.Subset.refl _) (List.Subset.refl _) (Or.inl (hself _))⟩
      · simp only [hr, if_false]
        by_cases hu : u.nat = natUnrestricted
        · simp only [hu, if_true]
          exact ⟨fun _ => hcc, h.natR.keep u, h.natU.insert hu, h.natX.keep u,
            fun _ => hcov (List.Subset.refl _) (hin _) (List.Subset.refl _) (Or.inr (Or.inl (hself _)))⟩
        · simp only [hu, if_false]
          exact ⟨fun _ => hcc, h.natR.keep u, h.natU.keep u, h.natX.insert ⟨hr, hu⟩,
            fun _ => hcov (List.Subset.refl _) (List.Subset.refl _) (hin _) (Or.inr (Or.inr (hself _)))⟩

theorem statsInv_foldl (geo : Bool) (us : List Upd) : ∀ (s : Stats) (pre : List Upd),
    StatsInv geo s pre → StatsInv geo (us.foldl (Stats.update geo) s) (pre ++ us) := by
  induction us with
  | nil => intro s pre h; simpa using h
  | cons u us ih =>
    intro s pre h
    have := ih _ _ (statsInv_update u h)
    simpa [List.append_assoc] using this

theorem statsInv_run (geo : Bool) (us : List Upd) : StatsInv geo (Stats.run geo us) us := by
  have := statsInv_foldl geo us Stats.empty [] (statsInv_empty geo)
  simpa [Stats.run] using this

theorem bucket_mem (ty : Str) : bucket ty ∈ none :: knownProxyTypes.map some := by
  unfold bucket
  split
  · exact List.mem_cons_of_mem _ (List.mem_map_of_mem ‹_›)
  · exact List.mem_cons_self ..

theorem sum_map_ite_add {α : Type} [DecidableEq α] (a : α) (c : α → Nat) : ∀ ks : List α,
    (ks.map fun k => (if a = k then 1 else 0) + c k).sum = ks.count a + (ks.map c).sum
  | [] => rfl
  | k :: ks => by
    rw [List.map_cons, List.sum_cons, sum_map_ite_add a c ks, List.count_cons, List.map_cons, List.sum_cons]
    by_cases e : a = k
    · simp only [e, if_true, beq_self_eq_true]; omega
    · simp only [e, if_false, beq_eq_false_iff_ne.2 (Ne.symm e), Bool.false_eq_true]; omega

theorem sum_class_sizes {α β : Type} [DecidableEq α] (f : β → α) (ks : List α) (hk : ks.Nodup) :
    ∀ l : List β, (∀ x ∈ l, f x ∈ ks) →
      (ks.map fun k => (l.filter fun x => f x = k).length).sum = l.length
  | [], _ => by induction ks <;> simp_all
  | x :: l, h => by
    have ih := sum_class_sizes f ks hk l (fun y hy => h y (List.mem_cons_of_mem _ hy))
    have hx : ks.count (f x) = 1 := by rw [hk.count, if_pos (h x (List.mem_cons_self ..))]
    have : ∀ k, ((x :: l).filter fun y => f y = k).length
        = (if f x = k then 1 else 0) + (l.filter fun y => f y = k).length := by
      intro k
      by_cases e : f x = k <;> simp [e, Nat.add_comm]
    simp only [this, sum_map_ite_add, hx, ih, List.length_cons, Nat.add_comm]

end Snowflake.Metrics
