import Snowflake.Model.ClientMap
import Snowflake.Proofs.Heap
/-!
The hooks of `clientMapInner` refine the plain array heap under `Consistent`, so the theorems of
`Proofs/Heap.lean` transfer; `removeExpired` removes exactly the expired records because the root is the oldest.
-/
namespace Snowflake.ClientMap
open Snowflake Snowflake.Heap

/-- `byAddr` and `byAge` hold the same records; `size` is why `Len()` never panics. -/
structure Consistent (s : Inner) : Prop where
  fwd : ∀ i r, s.byAge[i]? = some r → s.byAddr.get r.addr = some i
  bwd : ∀ a i, s.byAddr.get a = some i → ∃ r, s.byAge[i]? = some r ∧ r.addr = a
  size : s.byAddr.size = s.byAge.size

theorem swapH_spec (s : Inner) (i j : Nat) (hi : i < s.byAge.size) (hj : j < s.byAge.size) :
    (swapH s i j).byAge = s.byAge.swapIfInBounds i j
    ∧ (swapH s i j).byAddr = (s.byAddr.set s.byAge[j].addr i).set s.byAge[i].addr j
    ∧ (swapH s i j).closed = s.closed ∧ (swapH s i j).panicked = s.panicked := by
  unfold swapH
  have h1 : (s.byAge.swapIfInBounds i j)[i]? = some s.byAge[j] := by grind
  have h2 : (s.byAge.swapIfInBounds i j)[j]? = some s.byAge[i] := by grind
  simp only [h1, h2]
  simp

theorem swapH_consistent (s : Inner) (i j : Nat) (hc : Consistent s) (hi : i < s.byAge.size) (hj : j < s.byAge.size) :
    Consistent (swapH s i j) := by
  obtain ⟨e1, e2, -, -⟩ := swapH_spec s i j hi hj
  have fi := hc.fwd i s.byAge[i] (by simp [hi])
  have fj := hc.fwd j s.byAge[j] (by simp [hj])
  obtain ⟨hf, hb, hs⟩ := hc
  -- by cases: position `i`, `j` or neither
  constructor
  · intro k r hk
    rw [e1, getElem?_swapIfInBounds hi hj] at hk
    rw [e2]
    simp only [IdxMap.set]
    grind
  · intro a v hv
    rw [e2] at hv
    simp only [IdxMap.set] at hv
    rw [e1]
    simp only [getElem?_swapIfInBounds hi hj]
    grind
  · rw [e1, e2]
    simp only [IdxMap.set, Array.size_swapIfInBounds]
    grind

/-- The invariant handed to `Refines`.  `c` is a frame: it only carries `closed`, which the generic heap functions
never touch, through them. -/
def Inv (c : List Rec) (s : Inner) : Prop := Consistent s ∧ s.closed = c ∧ s.panicked = false

theorem refines (c : List Rec) : Refines Rec.lastSeen iface (fun s => s.byAge) (Inv c) where
  len := fun _ _ => rfl
  less := fun _ _ _ _ _ _ => rfl
  swap_abs := fun s i j _ hi hj => (swapH_spec s i j hi hj).1
  swap_inv := fun s i j h hi hj => by
    obtain ⟨-, -, e3, e4⟩ := swapH_spec s i j hi hj
    exact ⟨swapH_consistent s i j h.1 hi hj, e3.trans h.2.1, e4.trans h.2.2⟩

theorem pushH_spec (s : Inner) (r : Rec) (hc : Consistent s) (hn : s.byAddr.get r.addr = none) :
    (pushH s r).byAge = s.byAge.push r ∧ Consistent (pushH s r)
    ∧ (pushH s r).closed = s.closed ∧ (pushH s r).panicked = s.panicked := by
  unfold pushH
  simp only [hn, Option.isSome_none, Bool.false_eq_true, if_false]
  refine ⟨trivial, ?_, trivial, trivial⟩
  obtain ⟨hf, hb, hs⟩ := hc
  -- `r.addr` was not mapped, so only the new cell and the new entry matter
  constructor
  · intro k x hk
    simp only [Array.getElem?_push] at hk
    simp only [IdxMap.set]
    grind
  · intro a v hv
    simp only [IdxMap.set] at hv
    simp only [Array.getElem?_push]
    grind
  · simp only [IdxMap.set, hn, Array.size_push]
    simp [hs]

theorem popH_spec (s : Inner) (hc : Consistent s) (r : Rec) (hb : s.byAge.back? = some r) :
    (popH s).1.byAge = s.byAge.pop ∧ (popH s).2 = some r ∧ Consistent (popH s).1
    ∧ (popH s).1.closed = s.closed ++ [r] ∧ (popH s).1.panicked = s.panicked := by
  unfold popH
  rw [Array.back?_eq_getElem?] at hb
  simp only [hc.size, hb]
  refine ⟨Array.extract_eq_pop rfl, trivial, ?_, trivial, trivial⟩
  have fl := hc.fwd _ _ hb
  obtain ⟨hf, hbw, hs⟩ := hc
  -- no other entry points at the last cell
  constructor
  · intro k x hk
    simp only [Array.extract_eq_pop, Array.getElem?_pop] at hk
    simp only [IdxMap.erase]
    grind
  · intro a v hv
    simp only [IdxMap.erase] at hv
    simp only [Array.extract_eq_pop, Array.getElem?_pop]
    grind
  · simp only [IdxMap.erase, fl, Array.extract_eq_pop, Array.size_pop]
    simp [hs]

theorem consistent_set (s : Inner) (i : Nat) (r r' : Rec) (hc : Consistent s) (hr : s.byAge[i]? = some r)
    (ha : r'.addr = r.addr) : Consistent { s with byAge := s.byAge.setIfInBounds i r' } := by
  obtain ⟨hf, hb, hs⟩ := hc
  -- only cell `i` changes, to a record with the same address
  refine ⟨?_, ?_, ?_⟩
  · intro k x hk
    simp only [Array.getElem?_setIfInBounds] at hk
    grind
  · intro a v hv
    simp only [Array.getElem?_setIfInBounds]
    grind
  · simp [hs]

/-- The invariant of `run` (`run_good`): `cons` and `heap` for the two structures; `nopanic`: `Push` never met an
address that was already mapped. -/
structure Good (s : Inner) : Prop where
  cons : Consistent s
  heap : IsHeap Rec.lastSeen s.byAge
  nopanic : s.panicked = false

theorem good_empty : Good empty := by
  refine ⟨⟨?_, ?_, rfl⟩, ?_, rfl⟩
  · intro i r h; simp [empty] at h
  · intro a i h; simp [empty, IdxMap.empty] at h
  · intro c _ hc; simp [empty] at hc

theorem good_of_refined {c : List Rec} {s' : Inner} {b : Array Rec} (e : s'.byAge = b)
    (hinv : Inv c s') (hb : IsHeap Rec.lastSeen b) : Good s' ∧ s'.closed = c :=
  ⟨⟨hinv.1, e ▸ hb, hinv.2.2⟩, hinv.2.1⟩

theorem sendQueue_existing (s : Inner) (a : Nat) (t : Int) (g : Good s) (i : Nat) (r : Rec)
    (hget : s.byAddr.get a = some i) (hr : s.byAge[i]? = some r) :
    Good (sendQueue s a t) ∧ (sendQueue s a t).closed = s.closed
    ∧ (sendQueue s a t).byAge.Perm (s.byAge.setIfInBounds i { r with lastSeen := t }) := by
  obtain ⟨hi, -⟩ := Array.getElem?_eq_some_iff.mp hr
  unfold sendQueue
  simp only [hget, hr]
  let s1 : Inner := { s with byAge := s.byAge.setIfInBounds i { r with lastSeen := t } }
  have hinv : Inv s.closed s1 := ⟨consistent_set s i r _ g.cons hr rfl, rfl, g.nopanic⟩
  have hi1 : i < s1.byAge.size := by simp [s1, hi]
  have R := fix_refines Rec.lastSeen (refines s.closed) s1 i hinv hi1
  have e : s1.byAge = s.byAge.set i { r with lastSeen := t } hi := by
    simp [s1, Array.setIfInBounds, hi]
  have F := fix_set Rec.lastSeen s.byAge i { r with lastSeen := t } hi g.heap
  rw [← e] at F
  obtain ⟨G, C⟩ := good_of_refined R.1 R.2 F.1
  exact ⟨G, C, by rw [R.1]; exact F.2⟩

theorem sendQueue_new (s : Inner) (a : Nat) (t : Int) (g : Good s) (hget : s.byAddr.get a = none) :
    Good (sendQueue s a t) ∧ (sendQueue s a t).closed = s.closed
    ∧ (sendQueue s a t).byAge.Perm (s.byAge.push { addr := a, lastSeen := t, queue := [] }) := by
  unfold sendQueue
  simp only [hget]
  obtain ⟨p1, p2, p3, p4⟩ := pushH_spec s { addr := a, lastSeen := t, queue := [] } g.cons hget
  have R := push_refines Rec.lastSeen (refines s.closed) s { addr := a, lastSeen := t, queue := [] } _
    p1 ⟨p2, p3, p4.trans g.nopanic⟩
  have P := push_spec Rec.lastSeen s.byAge { addr := a, lastSeen := t, queue := [] } g.heap
  obtain ⟨G, C⟩ := good_of_refined R.1 R.2 P.1
  exact ⟨G, C, R.1 ▸ P.2⟩

theorem pop_good (s : Inner) (g : Good s) (hne : 0 < s.byAge.size) :
    Good (pop iface s).1 ∧ (pop iface s).1.closed = s.closed ++ [s.byAge[0]]
    ∧ s.byAge.toList.Perm (s.byAge[0] :: (pop iface s).1.byAge.toList) := by
  obtain ⟨R1, R2, R3, R4⟩ :=
    popPrep_refines Rec.lastSeen (refines s.closed) s ⟨g.cons, rfl, g.nopanic⟩ hne
  have P := pop_spec Rec.lastSeen s.byAge g.heap hne
  rw [pop_eq, ← R1] at P
  obtain ⟨H1, -, H3, H4, H5⟩ := popH_spec (popPrep iface s) R2 s.byAge[0] P.1
  show Good (popH (popPrep iface s)).1 ∧ (popH (popPrep iface s)).1.closed = _
    ∧ List.Perm _ (_ :: (popH (popPrep iface s)).1.byAge.toList)
  rw [H1]
  refine ⟨⟨H3, H1 ▸ P.2.1, H5.trans R4⟩, H4.trans (by rw [R3]), ?_⟩
  have := Array.perm_iff_toList_perm.mp P.2.2
  rw [Array.toList_push] at this
  exact this.trans (List.perm_append_singleton _ _)

def Expired (now timeout : Int) (r : Rec) : Prop := now - r.lastSeen ≥ timeout

theorem guard_iff (s : Inner) (now timeout : Int) :
    guard s.byAge.size now (keyAt Rec.lastSeen s.byAge 0) timeout = true ↔
      ∃ h : 0 < s.byAge.size, Expired now timeout s.byAge[0] := by
  simp only [guard, Expired, Bool.and_eq_true, decide_eq_true_eq]
  exact ⟨fun ⟨h1, h2⟩ => ⟨h1, keyAt_lt Rec.lastSeen _ _ h1 ▸ h2⟩,
    fun ⟨h1, h2⟩ => ⟨h1, (keyAt_lt Rec.lastSeen _ _ h1).symm ▸ h2⟩⟩

theorem removeExpiredLoop_spec (now timeout : Int) (fuel : Nat) (s : Inner) :
    s.byAge.size ≤ fuel → Good s →
    Good (removeExpiredLoop now timeout fuel s)
    ∧ ∃ removed : List Rec,
        (removeExpiredLoop now timeout fuel s).closed = s.closed ++ removed
        ∧ s.byAge.toList.Perm ((removeExpiredLoop now timeout fuel s).byAge.toList ++ removed)
        ∧ (∀ r ∈ removed, Expired now timeout r)
        ∧ (∀ r ∈ (removeExpiredLoop now timeout fuel s).byAge, ¬ Expired now timeout r) := by
  fun_induction removeExpiredLoop now timeout fuel s with
  | case1 s =>
    intro hs g
    refine ⟨g, [], by simp, by simp, by simp, fun r hr => ?_⟩
    have := Array.size_pos_of_mem hr
    omega
  | case2 fuel s hg ih =>
    intro hs g
    obtain ⟨hne, hexp⟩ := (guard_iff s now timeout).1 hg
    obtain ⟨G, C, P⟩ := pop_good s g hne
    have hsz := P.length_eq
    simp only [Array.length_toList, List.length_cons] at hsz
    obtain ⟨G', removed, C', P', E', N'⟩ := ih (by omega) G
    refine ⟨G', s.byAge[0] :: removed, by rw [C', C]; simp,
      (P.trans (P'.cons _)).trans List.perm_middle.symm, fun r hr => ?_, N'⟩
    rcases List.mem_cons.mp hr with rfl | h
    · exact hexp
    · exact E' r h
  | case3 fuel s hg =>
    -- the root is the oldest record: if it has not expired, none has
    intro hs g
    refine ⟨g, [], by simp, by simp, by simp, fun r hr hexp => hg ?_⟩
    have hne := Array.size_pos_of_mem hr
    have := root_min Rec.lastSeen s.byAge g.heap hne r hr
    exact (guard_iff s now timeout).2 ⟨hne, by unfold Expired at *; omega⟩

theorem removeExpired_spec (s : Inner) (now timeout : Int) (g : Good s) :
    Good (removeExpired s now timeout)
    ∧ ∃ removed : List Rec,
        (removeExpired s now timeout).closed = s.closed ++ removed
        ∧ s.byAge.toList.Perm ((removeExpired s now timeout).byAge.toList ++ removed)
        ∧ (∀ r, r ∈ removed ↔ r ∈ s.byAge ∧ Expired now timeout r)
        ∧ (∀ r, r ∈ (removeExpired s now timeout).byAge ↔ r ∈ s.byAge ∧ ¬ Expired now timeout r) := by
  unfold removeExpired
  obtain ⟨G, removed, C, P, E, N⟩ := removeExpiredLoop_spec now timeout s.byAge.size s (Nat.le_refl _) g
  have hm : ∀ r, r ∈ s.byAge ↔ r ∈ (removeExpiredLoop now timeout s.byAge.size s).byAge ∨ r ∈ removed := by
    intro r
    rw [← Array.mem_toList_iff, P.mem_iff, List.mem_append, Array.mem_toList_iff]
  exact ⟨G, removed, C, P,
    fun r => ⟨fun h => ⟨(hm r).2 (Or.inr h), E r h⟩, fun ⟨h, he⟩ => ((hm r).1 h).resolve_left fun hf => N r hf he⟩,
    fun r => ⟨fun h => ⟨(hm r).2 (Or.inl h), N r h⟩, fun ⟨h, hn⟩ => ((hm r).1 h).resolve_right fun hr => hn (E r hr)⟩⟩

theorem good_setQueue (s : Inner) (i : Nat) (r r' : Rec) (g : Good s) (hr : s.byAge[i]? = some r)
    (ha : r'.addr = r.addr) (hl : r'.lastSeen = r.lastSeen) :
    Good { s with byAge := s.byAge.setIfInBounds i r' } := by
  refine ⟨consistent_set s i r r' g.cons hr ha, ?_, g.nopanic⟩
  show IsHeapN Rec.lastSeen (s.byAge.setIfInBounds i r') (s.byAge.setIfInBounds i r').size
  rw [Array.size_setIfInBounds]
  -- at `i` the new record has the old `LastSeen`
  refine g.heap.congr Rec.lastSeen fun k _ => ?_
  unfold keyAt
  simp only [Array.getElem?_setIfInBounds]
  grind

theorem offer_good (s : Inner) (a : Nat) (p : Bytes) (g : Good s) :
    Good (offer s a p).1 ∧ (offer s a p).1.closed = s.closed := by
  fun_cases offer s a p
  · next i _ r hr _ => exact ⟨good_setQueue s i r _ g hr rfl rfl, rfl⟩
  · exact ⟨g, rfl⟩
  · exact ⟨g, rfl⟩
  · exact ⟨g, rfl⟩

theorem poll_good (s : Inner) (a : Nat) (g : Good s) :
    Good (poll s a).1 ∧ (poll s a).1.closed = s.closed := by
  fun_cases poll s a
  · next i _ r hr _ _ _ => exact ⟨good_setQueue s i r _ g hr rfl rfl, rfl⟩
  · exact ⟨g, rfl⟩
  · exact ⟨g, rfl⟩
  · exact ⟨g, rfl⟩

theorem sendQueue_good (s : Inner) (a : Nat) (t : Int) (g : Good s) :
    Good (sendQueue s a t) ∧ (sendQueue s a t).closed = s.closed := by
  cases hget : s.byAddr.get a with
  | none =>
    obtain ⟨h1, h2, -⟩ := sendQueue_new s a t g hget
    exact ⟨h1, h2⟩
  | some i =>
    obtain ⟨r, hr, -⟩ := g.cons.bwd a i hget
    obtain ⟨h1, h2, -⟩ := sendQueue_existing s a t g i r hget hr
    exact ⟨h1, h2⟩

theorem apply_good (s : Inner) (op : Op) (g : Good s) : Good (apply s op) := by
  cases op with
  | send a t => exact (sendQueue_good s a t g).1
  | sweep t d => exact (removeExpired_spec s t d g).1
  | write a t p => exact (offer_good _ a p (sendQueue_good s a t g).1).1
  | take a t => exact (poll_good _ a (sendQueue_good s a t g).1).1

theorem run_good (ops : List Op) : Good (run ops) :=
  List.foldlRecOn ops apply good_empty fun s g op _ => apply_good s op g

/-- What `SendQueue(a, t)` does to an existing record. -/
def touch (a : Nat) (t : Int) (r : Rec) : Rec := if r.addr = a then { r with lastSeen := t } else r

theorem touch_addr (a : Nat) (t : Int) (r : Rec) : (touch a t r).addr = r.addr := by
  unfold touch; split <;> rfl

theorem touch_queue (a : Nat) (t : Int) (r : Rec) : (touch a t r).queue = r.queue := by
  unfold touch; split <;> rfl

theorem sendQueue_perm (s : Inner) (a : Nat) (t : Int) (g : Good s) :
    (sendQueue s a t).byAge.Perm (s.byAge.map (touch a t) ++
      if s.byAddr.get a = none then #[{ addr := a, lastSeen := t, queue := [] }] else #[]) := by
  -- by `Consistent`, the record at `k` has address `a` only if `byAddr[a] = k`
  have hfk : ∀ k r, s.byAge[k]? = some r → r.addr = a → s.byAddr.get a = some k :=
    fun k r hk h => h ▸ g.cons.fwd k r hk
  cases hget : s.byAddr.get a with
  | none =>
    have hm : s.byAge.map (touch a t) = s.byAge := by
      apply Array.ext_getElem?
      intro k
      rw [Array.getElem?_map]
      cases hk : s.byAge[k]? with
      | none => rfl
      | some r =>
        have : ¬ r.addr = a := fun h => by rw [hfk k r hk h] at hget; cases hget
        simp [touch, this]
    rw [hm]
    simpa using (sendQueue_new s a t g hget).2.2
  | some i =>
    obtain ⟨ri, hri, hai⟩ := g.cons.bwd a i hget
    obtain ⟨hi, hri'⟩ := Array.getElem?_eq_some_iff.mp hri
    have hm : s.byAge.map (touch a t) = s.byAge.setIfInBounds i { ri with lastSeen := t } := by
      apply Array.ext_getElem?
      intro k
      rw [Array.getElem?_map, Array.getElem?_setIfInBounds]
      by_cases hik : i = k
      · subst hik; simp [hi, touch, hri', hai]
      · cases hk : s.byAge[k]? with
        | none => simp [hik]
        | some r =>
          have : ¬ r.addr = a := fun h => by rw [hfk k r hk h] at hget; cases hget; exact hik rfl
          simp [hik, touch, this]
    rw [hm]
    simpa using (sendQueue_existing s a t g i ri hget hri).2.2

theorem sendQueue_keeps (s : Inner) (a : Nat) (t : Int) (g : Good s) (r : Rec) (hr : r ∈ s.byAge) :
    touch a t r ∈ (sendQueue s a t).byAge :=
  (sendQueue_perm s a t g).mem_iff.2 (Array.mem_append_left _ (Array.mem_map.2 ⟨r, hr, rfl⟩))

theorem sendQueue_present (s : Inner) (a : Nat) (t : Int) (g : Good s) :
    ∃ r ∈ (sendQueue s a t).byAge, r.addr = a ∧ r.lastSeen = t := by
  cases hget : s.byAddr.get a with
  | none =>
    exact ⟨{ addr := a, lastSeen := t, queue := [] },
      (sendQueue_perm s a t g).mem_iff.2 (Array.mem_append_right _ (by simp [hget])), rfl, rfl⟩
  | some i =>
    obtain ⟨ri, hri, hai⟩ := g.cons.bwd a i hget
    refine ⟨_, sendQueue_keeps s a t g ri (Array.mem_of_getElem? hri), (touch_addr a t ri).trans hai, ?_⟩
    simp [touch, hai]

end Snowflake.ClientMap
