import Snowflake.Base.IP
/-!
Lemmas about the IP text model: Go's rendering of an address parses back to the same address, and
`net.ParseIP` returns 16 bytes or nil.
-/
namespace Snowflake.IP
open Snowflake.GoStr

theorem digit_toNat {k : Nat} (h : k < 10) : (digit k).toNat = 48 + k := by
  simp only [digit, UInt8.toNat_ofNat']; omega

theorem isDigit_digit {k : Nat} (h : k < 10) : isDigit (digit k) = true := by
  simp only [isDigit, digit_toNat h]; simp; omega

theorem digit_chars {k : Nat} (h : k < 10) : digit k ≠ 46 ∧ digit k ≠ 58 ∧ digit k ≠ 37 :=
  (by decide : ∀ k : Fin 10, digit k.val ≠ 46 ∧ digit k.val ≠ 58 ∧ digit k.val ≠ 37) ⟨k, h⟩

theorem digit_ne_dot {k : Nat} (h : k < 10) : digit k ≠ 46 := (digit_chars h).1

theorem v4loop_digit {k : Nat} (hk : k < 10) {rest : Str} {val dl : Nat} {fields : List UInt8}
    (h0 : ¬ (dl = 1 ∧ val = 0)) (hv : val * 10 + k ≤ 255) :
    v4loop (digit k :: rest) val dl fields = v4loop rest (val * 10 + k) (dl + 1) fields := by
  rw [v4loop]
  simp only [isDigit_digit hk, if_true, if_neg h0, digit_toNat hk]
  rw [Nat.add_sub_cancel_left, if_neg (by omega)]

theorem v4loop_dot {rest : Str} {val dl : Nat} {fields : List UInt8}
    (hdl : dl ≠ 0) (hrest : rest ≠ []) (hf : fields.length ≠ 3) :
    v4loop (46 :: rest) val dl fields = v4loop rest 0 0 (fields ++ [UInt8.ofNat val]) := by
  rw [v4loop]
  have : isDigit 46 = false := by decide
  simp [this, hdl, hrest, hf]

theorem dec_ne_nil (x : UInt8) : dec x ≠ [] := by
  unfold dec; simp

theorem v4loop_dec (x : UInt8) (rest : Str) (fields : List UInt8) :
    v4loop (dec x ++ rest) 0 0 fields = v4loop rest x.toNat (dec x).length fields := by
  have hx : x.toNat < 256 := x.toNat_lt
  unfold dec
  by_cases h100 : x.toNat ≥ 100
  · have h10 : x.toNat ≥ 10 := by omega
    simp only [h100, h10, if_true, List.cons_append, List.nil_append]
    rw [v4loop_digit (by omega) (by omega) (by omega),
      v4loop_digit (by omega) (by omega) (by omega),
      v4loop_digit (by omega) (by omega) (by omega)]
    congr 1; omega
  · by_cases h10 : x.toNat ≥ 10
    · simp only [h100, h10, if_true, if_false, List.cons_append, List.nil_append]
      rw [v4loop_digit (by omega) (by omega) (by omega),
        v4loop_digit (by omega) (by omega) (by omega)]
      congr 1; omega
    · simp only [h100, h10, if_false, List.nil_append, List.cons_append]
      rw [v4loop_digit (by omega) (by omega) (by omega)]
      congr 1; omega

theorem v4loop_dec_dot (x : UInt8) {rest : Str} (hrest : rest ≠ []) {fields : List UInt8} (hf : fields.length ≠ 3) :
    v4loop (dec x ++ 46 :: rest) 0 0 fields = v4loop rest 0 0 (fields ++ [x]) := by
  rw [v4loop_dec, v4loop_dot (by simp [dec_ne_nil]) hrest hf, UInt8.ofNat_toNat]

theorem v4loop_dec_end (x : UInt8) {fields : List UInt8} (hf : ¬ fields.length < 3) :
    v4loop (dec x) 0 0 fields = some (fields ++ [x]) := by
  rw [← List.append_nil (dec x), v4loop_dec, v4loop, if_neg hf, UInt8.ofNat_toNat]

theorem ofNat_toNat (x : UInt8) : UInt8.ofNat x.toNat = x := by simp

theorem parse4_render4 (a b c d : UInt8) : parse4 (render4 a b c d) = some [a, b, c, d] := by
  simp only [parse4, render4, List.append_assoc, List.cons_append, List.nil_append]
  rw [v4loop_dec_dot a (by simp) (by simp), v4loop_dec_dot b (by simp) (by simp),
    v4loop_dec_dot c (dec_ne_nil d) (by simp), v4loop_dec_end d (by simp)]
  rfl

theorem hexVal_hexDigit {d : Nat} (h : d < 16) : hexVal (hexDigit d) = some d :=
  (by decide : ∀ d : Fin 16, hexVal (hexDigit d.val) = some d.val) ⟨d, h⟩

theorem isHex_hexDigit {d : Nat} (h : d < 16) : isHex (hexDigit d) = true := by simp [isHex, hexVal_hexDigit h]

theorem hexDigit_ne_fin : ∀ d : Fin 16, hexDigit d.val ≠ 58 ∧ hexDigit d.val ≠ 46 ∧ hexDigit d.val ≠ 37 := by decide

theorem isHex_colon : isHex 58 = false := by decide

/-- the digits `hex` prints, as numbers (`hex_eq`) -/
def hexDigits (x : Nat) : List Nat :=
  (if x ≥ 0x1000 then [x / 4096] else []) ++ (if x ≥ 0x100 then [x / 256 % 16] else [])
    ++ (if x ≥ 0x10 then [x / 16 % 16] else []) ++ [x % 16]

theorem hex_eq (x : Nat) : hex x = (hexDigits x).map hexDigit := by
  unfold hex hexDigits
  split <;> split <;> split <;> simp

theorem hexDigits_lt {x : Nat} (hx : x < 65536) : ∀ d ∈ hexDigits x, d < 16 := by
  intro d hd
  unfold hexDigits at hd
  simp only [List.mem_append, List.mem_singleton] at hd
  rcases hd with ((h | h) | h) | h
  · split at h <;> simp at h; omega
  · split at h <;> simp at h; omega
  · split at h <;> simp at h; omega
  · omega

theorem hexDigits_len (x : Nat) : 1 ≤ (hexDigits x).length ∧ (hexDigits x).length ≤ 4 := by
  unfold hexDigits
  split <;> split <;> split <;> simp

theorem hexDigits_val {x : Nat} (hx : x < 65536) : (hexDigits x).foldl (fun a d => a * 16 + d) 0 = x := by
  unfold hexDigits
  split <;> split <;> split <;> simp <;> omega

theorem takeWhile_hexrun {ds : List Nat} (hds : ∀ d ∈ ds, d < 16) {rest : Str}
    (hrest : rest = [] ∨ ∃ r, rest = 58 :: r) :
    (ds.map hexDigit ++ rest).takeWhile isHex = ds.map hexDigit
    ∧ (ds.map hexDigit ++ rest).dropWhile isHex = rest := by
  induction ds with
  | nil =>
    rcases hrest with h | ⟨r, h⟩ <;> subst h <;> simp [isHex_colon]
  | cons d ds ih =>
    have hd : isHex (hexDigit d) = true := isHex_hexDigit (hds d (by simp))
    simp [hd, ih (fun x hx => hds x (by simp [hx]))]

theorem hexNum_map {ds : List Nat} (hds : ∀ d ∈ ds, d < 16) (a : Nat) :
    (ds.map hexDigit).foldl (fun acc c => acc * 16 + (hexVal c).getD 0) a = ds.foldl (fun a d => a * 16 + d) a := by
  induction ds generalizing a with
  | nil => rfl
  | cons d ds ih =>
    simp only [List.map_cons, List.foldl_cons, hexVal_hexDigit (hds d (by simp)), Option.getD_some]
    exact ih (fun x hx => hds x (by simp [hx])) _

theorem hexNum_hex {g : Nat} (hg : g < 65536) : hexNum (hex g) = g := by
  rw [hex_eq, hexNum, hexNum_map (hexDigits_lt hg), hexDigits_val hg]

def gbytes (g : Nat) : List UInt8 := [UInt8.ofNat (g / 256), UInt8.ofNat (g % 256)]

/-- The tail of a `v6loop` pass, once the group is stored in `acc`: end of string, `:` or `::`. -/
def v6sep (fuel : Nat) : Str → Option Nat → List UInt8 → Option (Option Nat × List UInt8)
  | [], ell, acc => some (ell, acc)
  | c :: r1, ell, acc =>
    if c ≠ 58 then none
    else match r1 with
      | [] => none
      | c2 :: r2 =>
        if c2 = 58 then
          if ell.isSome then none
          else if r2 = [] then some (some acc.length, acc)
          else v6loop fuel r2 (some acc.length) acc
        else v6loop fuel r1 ell acc

theorem v6sep_colon (fuel : Nat) {c : UInt8} (hc : c ≠ 58) (r : Str) (ell : Option Nat) (acc : List UInt8) :
    v6sep fuel (58 :: c :: r) ell acc = v6loop fuel (c :: r) ell acc := by
  simp [v6sep, hc]

theorem v6loop_group {g : Nat} (hg : g < 65536) (fuel : Nat) {rest : Str} (ell : Option Nat) (acc : List UInt8)
    (hrest : rest = [] ∨ ∃ r, rest = 58 :: r) :
    v6loop (fuel + 1) (hex g ++ rest) ell acc = v6sep fuel rest ell (acc ++ gbytes g) := by
  rw [v6loop]
  have htd := takeWhile_hexrun (hexDigits_lt hg) hrest
  rw [← hex_eq] at htd
  have hlen : (hex g).length = (hexDigits g).length := by rw [hex_eq]; simp
  have hl := hexDigits_len g
  simp only [htd.1, htd.2, hexNum_hex hg, gbytes]
  rw [if_neg (by omega), if_neg (by omega)]
  have : ¬ rest.head? = some 46 := by
    rcases hrest with h | ⟨r, h⟩ <;> subst h <;> simp
  rw [if_neg this]
  cases rest with
  | nil => rfl
  | cons c r1 => cases r1 <;> rfl

def gsBytes (gs : List Nat) : List UInt8 := gs.flatMap gbytes

theorem joinGroups_cons2 (g g' : Nat) (gs : List Nat) :
    joinGroups (g :: g' :: gs) = hex g ++ 58 :: joinGroups (g' :: gs) := by
  simp [joinGroups]

theorem hex_chars {g : Nat} (hg : g < 65536) : ∀ c ∈ hex g, c ≠ 58 ∧ c ≠ 46 ∧ c ≠ 37 := by
  intro c hc
  rw [hex_eq, List.mem_map] at hc
  obtain ⟨d, hd, rfl⟩ := hc
  exact hexDigit_ne_fin ⟨d, hexDigits_lt hg d hd⟩

theorem joinGroups_head {g : Nat} (hg : g < 65536) (gs : List Nat) :
    ∃ c r, joinGroups (g :: gs) = c :: r ∧ c ≠ 58 := by
  obtain ⟨c, r, h⟩ := List.exists_cons_of_length_pos (l := hex g) (by
    rw [hex_eq, List.length_map]; exact (hexDigits_len g).1)
  have hc := (hex_chars hg c (by simp [h])).1
  cases gs with
  | nil => exact ⟨c, r, by simpa [joinGroups] using h, hc⟩
  | cons g' gs => exact ⟨c, r ++ 58 :: joinGroups (g' :: gs), by rw [joinGroups_cons2, h]; rfl, hc⟩

theorem v6loop_groups {gs : List Nat} (hne : gs ≠ []) (hgs : ∀ g ∈ gs, g < 65536) (fuel : Nat)
    (hf : gs.length ≤ fuel) (ell : Option Nat) (acc : List UInt8) (rest : Str)
    (hrest : rest = [] ∨ ∃ r, rest = 58 :: r) :
    v6loop fuel (joinGroups gs ++ rest) ell acc = v6sep (fuel - gs.length) rest ell (acc ++ gsBytes gs) := by
  induction gs generalizing fuel acc with
  | nil => exact absurd rfl hne
  | cons g gs ih =>
    cases fuel with
    | zero => simp at hf
    | succ f =>
      have hg : g < 65536 := hgs g (by simp)
      cases gs with
      | nil => simpa [joinGroups, gsBytes] using v6loop_group hg f ell acc hrest
      | cons g' gs' =>
        -- the colon behind `g` is a single one: the next group begins with a hex digit `c`
        obtain ⟨c, r, hcr, hc⟩ := joinGroups_head (hgs g' (by simp)) gs'
        rw [joinGroups_cons2, List.append_assoc, List.cons_append, v6loop_group hg f ell acc (Or.inr ⟨_, rfl⟩), hcr,
          List.cons_append, v6sep_colon f hc, ← List.cons_append, ← hcr,
          ih (by simp) (fun x hx => hgs x (by simp [hx])) f (by simpa using hf)]
        simp [gsBytes, List.append_assoc]

theorem v6loop_groups_end {gs : List Nat} (hne : gs ≠ []) (hgs : ∀ g ∈ gs, g < 65536) (fuel : Nat)
    (hf : gs.length ≤ fuel) (ell : Option Nat) (acc : List UInt8) :
    v6loop fuel (joinGroups gs) ell acc = some (ell, acc ++ gsBytes gs) := by
  simpa [v6sep] using v6loop_groups hne hgs fuel hf ell acc [] (Or.inl rfl)

theorem gsBytes_length (gs : List Nat) : (gsBytes gs).length = 2 * gs.length := by
  induction gs with
  | nil => rfl
  | cons g gs ih => simp [gsBytes, gbytes] at ih ⊢; omega

theorem joinGroups_eq_nil {gs : List Nat} (hgs : ∀ g ∈ gs, g < 65536) : joinGroups gs = [] ↔ gs = [] := by
  cases gs with
  | nil => simp [joinGroups]
  | cons g gs =>
    obtain ⟨c, r, h, _⟩ := joinGroups_head (hgs g (by simp)) gs
    simp [h]

theorem joinGroups_chars {gs : List Nat} (hgs : ∀ g ∈ gs, g < 65536) : ∀ c ∈ joinGroups gs, c ≠ 46 ∧ c ≠ 37 := by
  induction gs with
  | nil => simp [joinGroups]
  | cons g gs ih =>
    cases gs with
    | nil =>
      intro c hc
      exact (hex_chars (hgs g (by simp)) c hc).2
    | cons g' gs' =>
      intro c hc
      rw [joinGroups_cons2, List.mem_append, List.mem_cons] at hc
      rcases hc with h | h | h
      · exact (hex_chars (hgs g (by simp)) c h).2
      · subst h; decide
      · exact ih (fun x hx => hgs x (by simp [hx])) c h

theorem contains_pct_false {s : Str} (h : ∀ c ∈ s, c ≠ 46 ∧ c ≠ 37) : s.contains 37 = false := by
  simpa using fun hm => (h 37 hm).2 rfl

theorem v6sep_ellipsis {post : List Nat} (hpost : ∀ g ∈ post, g < 65536) {fuel : Nat} (hf : post.length ≤ fuel)
    (acc : List UInt8) :
    v6sep fuel (58 :: 58 :: joinGroups post) none acc = some (some acc.length, acc ++ gsBytes post) := by
  by_cases hp : post = []
  · subst hp; simp [v6sep, joinGroups, gsBytes]
  · simp [v6sep, mt (joinGroups_eq_nil hpost).mp hp, v6loop_groups_end hp hpost fuel hf]

/-- The end of `parse6`, applied to what the loop returns. -/
def finish6 : Option (Option Nat × List UInt8) → Option (List UInt8)
  | none => none
  | some (ell, acc) =>
    if acc.length < 16 then
      match ell with
      | none => none
      | some e => some (acc.take e ++ List.replicate (16 - acc.length) 0 ++ acc.drop e)
    else if ell.isSome then none else some acc

theorem parse6_nolead {s : Str} (hs : ∃ c r, s = c :: r ∧ c ≠ 58) (hch : ∀ x ∈ s, x ≠ 46 ∧ x ≠ 37) :
    parse6 s = finish6 (v6loop 8 s none []) := by
  obtain ⟨c, r, rfl, hc⟩ := hs
  have hlead : ((c :: r).take 2 == [58, 58]) = false := by cases r <;> simp [hc]
  simp only [parse6, contains_pct_false hch, hlead, Bool.false_eq_true, if_false, false_and]
  rfl

theorem parse6_lead {t : Str} (ht : t ≠ []) (hch : ∀ x ∈ 58 :: 58 :: t, x ≠ 46 ∧ x ≠ 37) :
    parse6 (58 :: 58 :: t) = finish6 (v6loop 8 t (some 0) []) := by
  simp only [parse6, contains_pct_false hch, List.take, List.drop, beq_self_eq_true, ht, Bool.false_eq_true,
    if_false, if_true, and_false]
  rfl

theorem finish6_groups (pre post : List Nat) (h : pre.length + post.length < 8) :
    finish6 (some (some (gsBytes pre).length, gsBytes pre ++ gsBytes post))
      = some (gsBytes pre ++ List.replicate (16 - 2 * (pre.length + post.length)) 0 ++ gsBytes post) := by
  have hl : (gsBytes pre ++ gsBytes post).length = 2 * (pre.length + post.length) := by
    rw [List.length_append, gsBytes_length, gsBytes_length]; omega
  rw [finish6, if_pos (by omega), hl, List.take_left, List.drop_left]

theorem ellipsis_chars {pre post : List Nat} (hpre : ∀ g ∈ pre, g < 65536) (hpost : ∀ g ∈ post, g < 65536) :
    ∀ c ∈ joinGroups pre ++ 58 :: 58 :: joinGroups post, c ≠ 46 ∧ c ≠ 37 := by
  intro c hc
  simp only [List.mem_append, List.mem_cons] at hc
  rcases hc with h | h | h | h
  · exact joinGroups_chars hpre c h
  · subst h; decide
  · subst h; decide
  · exact joinGroups_chars hpost c h

theorem parse6_ellipsis {pre post : List Nat} (hpre : ∀ g ∈ pre, g < 65536) (hpost : ∀ g ∈ post, g < 65536)
    (hlen : pre.length + post.length < 8) :
    parse6 (joinGroups pre ++ 58 :: 58 :: joinGroups post) =
      some (gsBytes pre ++ List.replicate (16 - 2 * (pre.length + post.length)) 0 ++ gsBytes post) := by
  have hch := ellipsis_chars hpre hpost
  have hfin := finish6_groups pre post hlen
  cases pre with
  | nil =>
    by_cases hp : post = []
    · subst hp; decide
    · rw [joinGroups, List.nil_append, parse6_lead (mt (joinGroups_eq_nil hpost).mp hp) hch,
        v6loop_groups_end hp hpost 8 (by omega)]
      exact hfin
  | cons g pre' =>
    -- the loop reads `pre`, meets `::`, reads `post`; `finish6` fills the gap with zeros
    obtain ⟨c, r, hcr, hc⟩ := joinGroups_head (hpre g (by simp)) pre'
    rw [parse6_nolead ⟨c, r ++ _, by rw [hcr]; rfl, hc⟩ hch,
      v6loop_groups (by simp) hpre 8 (by omega) none [] _ (Or.inr ⟨_, rfl⟩),
      v6sep_ellipsis hpost (by omega), List.nil_append, hfin]

theorem parse6_full {gs : List Nat} (hgs : ∀ g ∈ gs, g < 65536) (hlen : gs.length = 8) :
    parse6 (joinGroups gs) = some (gsBytes gs) := by
  cases gs with
  | nil => simp at hlen
  | cons g gs' =>
    rw [parse6_nolead (joinGroups_head (hgs g (by simp)) gs') (joinGroups_chars hgs),
      v6loop_groups_end (by simp) hgs 8 (by omega) none [], List.nil_append, finish6,
      if_neg (by rw [gsBytes_length]; omega)]
    rfl

theorem take_zeroRun (L : List Nat) : zeroRun L ≤ L.length ∧ L.take (zeroRun L) = List.replicate (zeroRun L) 0 := by
  induction L with
  | nil => simp [zeroRun]
  | cons g gs ih =>
    unfold zeroRun at ih ⊢
    by_cases hg : g = 0
    · subst hg; simpa [List.replicate_succ] using ih
    · simp [hg]

/-- what the round trip needs from the run `appendTo6` compresses: it is a run of zero groups -/
def RunOk (full : List Nat) (p : Nat × Nat) : Prop :=
  p.1 < p.2 ∧ p.2 ≤ full.length ∧ (full.drop p.1).take (p.2 - p.1) = List.replicate (p.2 - p.1) 0

theorem best_step {l i cur : Nat} {best : Option (Nat × Nat)} {q : Nat × Nat}
    (hq : (if l ≥ 2 ∧ l > cur then some (i, i + l) else best) = some q) :
    (l ≥ 2 ∧ q = (i, i + l)) ∨ best = some q := by
  split at hq
  · rename_i h; exact Or.inl ⟨h.1, (Option.some.inj hq).symm⟩
  · exact Or.inr hq

theorem bestRun_sound (full : List Nat) : ∀ (gs : List Nat) (i : Nat) (best : Option (Nat × Nat)),
    full.drop i = gs → (∀ p, best = some p → RunOk full p) → ∀ p, bestRun gs i best = some p → RunOk full p := by
  intro gs
  induction gs with
  | nil => intro i best _ hb p hp; exact hb p (by simpa [bestRun] using hp)
  | cons g gs ih =>
    intro i best hdrop hb p hp
    refine ih (i + 1) _ ?_ ?_ p hp
    · rw [← List.drop_drop, hdrop]; rfl
    · intro q hq
      rcases best_step hq with ⟨hl2, hq⟩ | hq
      · -- a longer run starts here
        subst hq
        have hz := take_zeroRun (g :: gs)
        have hlen : (full.drop i).length = (g :: gs).length := by rw [hdrop]
        rw [List.length_drop] at hlen
        refine ⟨by omega, by omega, ?_⟩
        simp only [hdrop, Nat.add_sub_cancel_left]
        exact hz.2
      · exact hb q hq

theorem run_split {full : List Nat} {p : Nat × Nat} (h : RunOk full p) :
    full = full.take p.1 ++ List.replicate (p.2 - p.1) 0 ++ full.drop p.2 := by
  obtain ⟨h1, h2, h3⟩ := h
  have e : (full.drop p.1).drop (p.2 - p.1) = full.drop p.2 := by
    rw [List.drop_drop]; congr 1; omega
  rw [← h3, ← e, List.append_assoc, List.take_append_drop, List.take_append_drop]

theorem gsBytes_append (a b : List Nat) : gsBytes (a ++ b) = gsBytes a ++ gsBytes b := by
  simp [gsBytes]

theorem gsBytes_replicate_zero (k : Nat) : gsBytes (List.replicate k 0) = List.replicate (2 * k) 0 := by
  induction k with
  | zero => rfl
  | succ k ih =>
    rw [List.replicate_succ, gsBytes, List.flatMap_cons, ← gsBytes, ih]
    rfl

theorem groups_spec : ∀ (n : Nat) (ip : List UInt8), ip.length = 2 * n →
    (groups ip).length = n ∧ (∀ g ∈ groups ip, g < 65536) ∧ gsBytes (groups ip) = ip
  | 0, ip, h => by
    have : ip = [] := List.length_eq_zero_iff.mp (by omega)
    subst this; simp [groups, gsBytes]
  | n + 1, ip, h => by
    match ip, h with
    | a :: b :: rest, h =>
      obtain ⟨ih1, ih2, ih3⟩ := groups_spec n rest (by simp at h; omega)
      have ha := a.toNat_lt
      have hb := b.toNat_lt
      have e1 : (a.toNat * 256 + b.toNat) / 256 = a.toNat := by omega
      refine ⟨by simp [groups, ih1], ?_, ?_⟩
      · intro g hg
        rcases List.mem_cons.mp hg with rfl | hg
        · omega
        · exact ih2 g hg
      · rw [groups, gsBytes, List.flatMap_cons, ← gsBytes, ih3, gbytes, e1]
        simp

theorem render6_eq_cases (gs : List Nat) :
    render6 gs = joinGroups gs ∨
    ∃ p, RunOk gs p ∧ render6 gs = joinGroups (gs.take p.1) ++ 58 :: 58 :: joinGroups (gs.drop p.2) := by
  unfold render6
  cases hb : bestRun gs 0 none with
  | none => exact Or.inl rfl
  | some p =>
    refine Or.inr ⟨p, bestRun_sound gs gs 0 none (by simp) (by simp) p hb, ?_⟩
    simp

theorem parse6_render6 (ip : List UInt8) (hlen : ip.length = 16) : parse6 (render6 (groups ip)) = some ip := by
  obtain ⟨hl, hlt, hb⟩ := groups_spec 8 ip (by omega)
  rcases render6_eq_cases (groups ip) with hr | ⟨p, hok, hr⟩
  · rw [hr, parse6_full hlt hl, hb]
  · have hsplit := run_split hok
    obtain ⟨h1, h2, _⟩ := hok
    rw [hr, parse6_ellipsis (fun g hg => hlt g (List.mem_of_mem_take hg)) (fun g hg => hlt g (List.mem_of_mem_drop hg))
      (by rw [List.length_take, List.length_drop]; omega)]
    conv => rhs; rw [← hb, hsplit]
    rw [gsBytes_append, gsBytes_append, gsBytes_replicate_zero, List.length_take, List.length_drop]
    congr 4
    omega

theorem find_colon {s : Str} (h : ∀ c ∈ s, c ≠ 46 ∧ c ≠ 37) (hm : (58 : UInt8) ∈ s) :
    s.find? (fun c => c == 46 || c == 58 || c == 37) = some 58 := by
  cases hc : s.find? (fun c => c == 46 || c == 58 || c == 37) with
  | none => simpa using List.find?_eq_none.mp hc 58 hm
  | some c =>
    have hp := List.find?_some hc
    have := h c (List.mem_of_find?_eq_some hc)
    simp [this.1, this.2] at hp
    rw [hp]

theorem render6_chars {gs : List Nat} (hgs : ∀ g ∈ gs, g < 65536) (hlen : 2 ≤ gs.length) :
    (∀ c ∈ render6 gs, c ≠ 46 ∧ c ≠ 37) ∧ (58 : UInt8) ∈ render6 gs := by
  rcases render6_eq_cases gs with hr | ⟨p, _, hr⟩
  · rw [hr]
    refine ⟨joinGroups_chars hgs, ?_⟩
    match gs, hlen with
    | g :: g' :: gs', _ => rw [joinGroups_cons2]; simp
  · rw [hr]
    exact ⟨ellipsis_chars (fun g hg => hgs g (List.mem_of_mem_take hg)) (fun g hg => hgs g (List.mem_of_mem_drop hg)),
      by simp⟩

theorem parseIP_render6 (ip : List UInt8) (hlen : ip.length = 16) : parseIP (render6 (groups ip)) = some ip := by
  obtain ⟨hl, hlt, _⟩ := groups_spec 8 ip (by omega)
  obtain ⟨h1, h2⟩ := render6_chars hlt (by omega)
  unfold parseIP
  rw [find_colon h1 h2]
  simp only [show ¬ ((58 : UInt8) = 46) by decide, if_false, if_true]
  exact parse6_render6 ip hlen

theorem dec_chars (x : UInt8) : ∀ c ∈ dec x, c ≠ 46 ∧ c ≠ 58 ∧ c ≠ 37 := by
  intro c hc
  have hx := x.toNat_lt
  unfold dec at hc
  simp only [List.mem_append, List.mem_singleton] at hc
  rcases hc with (h | h) | h
  · split at h <;> simp at h; subst h; exact digit_chars (by omega)
  · split at h <;> simp at h; subst h; exact digit_chars (by omega)
  · subst h; exact digit_chars (by omega)

theorem find_dot (a : UInt8) (rest : Str) :
    (dec a ++ 46 :: rest).find? (fun c => c == 46 || c == 58 || c == 37) = some 46 := by
  rw [List.find?_append]
  have : (dec a).find? (fun c => c == 46 || c == 58 || c == 37) = none := by
    rw [List.find?_eq_none]
    intro c hc
    have := dec_chars a c hc
    simp [this.1, this.2.1, this.2.2]
  rw [this]; simp

theorem parseIP_render4 (a b c d : UInt8) : parseIP (render4 a b c d) = some (v4InV6Prefix ++ [a, b, c, d]) := by
  unfold parseIP
  have : render4 a b c d = dec a ++ 46 :: (dec b ++ [46] ++ dec c ++ [46] ++ dec d) := by
    simp [render4, List.append_assoc]
  rw [this, find_dot, ← this]
  simp [parse4_render4]

theorem eq_quad_of_length {ip : List UInt8} (h : ip.length = 4) : ∃ a b c d, ip = [a, b, c, d] := by
  match ip, h with
  | [a, b, c, d], _ => exact ⟨a, b, c, d, rfl⟩

theorem to4_mapped {q : Str} (h : q.length = 4) : to4 (v4InV6Prefix ++ q) = some q := by
  simp [to4, v4InV6Prefix, idx, h]

theorem to4_eq_some {ip q : Str} : to4 ip = some q ↔ q.length = 4 ∧ (ip = q ∨ ip = v4InV6Prefix ++ q) := by
  constructor
  · intro h
    unfold to4 at h
    split at h
    · cases h; exact ⟨‹_›, Or.inl rfl⟩
    · split at h
      · rename_i hc
        cases h
        match ip, hc with
        | [a0, a1, a2, a3, a4, a5, a6, a7, a8, a9, a10, a11, b0, b1, b2, b3], hc =>
          simp [idx] at hc
          obtain ⟨⟨h0, h1, h2, h3, h4, h5, h6, h7, h8, h9⟩, h10, h11⟩ := hc
          subst_vars
          exact ⟨rfl, Or.inr rfl⟩
      · cases h
  · rintro ⟨h4, rfl | rfl⟩
    · simp [to4, h4]
    · exact to4_mapped h4

theorem parseIP_render_16 (ip : List UInt8) (h : ip.length = 16) : parseIP (render ip) = some ip := by
  unfold render
  rw [if_neg (by omega), if_neg (by omega)]
  cases h4 : to4 ip with
  | none => exact parseIP_render6 ip h
  | some q =>
    obtain ⟨hq, rfl | rfl⟩ := to4_eq_some.mp h4
    · omega
    · obtain ⟨a, b, c, d, rfl⟩ := eq_quad_of_length hq
      exact parseIP_render4 a b c d

theorem parseIP_render_4 (ip : List UInt8) (h : ip.length = 4) : parseIP (render ip) = some (v4InV6Prefix ++ ip) := by
  obtain ⟨a, b, c, d, rfl⟩ := eq_quad_of_length h
  simp only [render, to4, idx, List.length_cons, List.length_nil]
  simp [parseIP_render4]

/-! ## `net.ParseIP` returns 16 bytes -/

theorem v4loop_length {s : Str} {val dl : Nat} {fields r : List UInt8}
    (hf : fields.length ≤ 3) (h : v4loop s val dl fields = some r) : r.length = 4 := by
  fun_induction v4loop s val dl fields <;> simp_all
  -- what is left: the end of the string (a fourth octet joins three) and a dot (one more field)
  case case2 => subst h; simp; omega
  case case8 ih => exact ih (by omega)

theorem parse4_length {s : Str} {r : List UInt8} (h : parse4 s = some r) : r.length = 4 :=
  v4loop_length (by simp) h

theorem v6loop_length {fuel : Nat} {s : Str} {ell : Option Nat} {acc : List UInt8} {ell' : Option Nat}
    {acc' : List UInt8} (hb : acc.length + 2 * fuel ≤ 16) (h : v6loop fuel s ell acc = some (ell', acc')) :
    acc'.length ≤ 16 := by
  fun_induction v6loop fuel s ell acc <;> simp_all
  -- the three exits that return (dotted quad, end of string, trailing `::`) and the two recursive calls
  case case8 => obtain ⟨-, rfl⟩ := h; have := parse4_length ‹parse4 _ = some _›; simp; omega
  case case9 | case13 => obtain ⟨-, rfl⟩ := h; simp +zetaDelta; omega
  case case14 ih | case15 ih => exact ih (by simp +zetaDelta; omega)

theorem parse6_length {s : Str} {r : List UInt8} (h : parse6 s = some r) : r.length = 16 := by
  revert h
  fun_cases parse6 s <;> intro h <;> simp_all
  -- the three exits that return: a bare `::`, an expanded ellipsis, all 16 bytes read by the loop
  case case2 => subst h; rfl
  case case5 => subst h; simp; omega
  case case7 =>
    have := v6loop_length (Nat.le_refl 16) ‹v6loop _ _ _ _ = _›
    omega

theorem parseIP_length {s : Str} {ip : List UInt8} (h : parseIP s = some ip) : ip.length = 16 := by
  unfold parseIP at h
  split at h
  · split at h
    · simp only [Option.map_eq_some_iff] at h
      obtain ⟨f, hf, rfl⟩ := h
      simp [v4InV6Prefix, parse4_length hf]
    · split at h
      · exact parse6_length h
      · cases h
  · cases h

end Snowflake.IP
