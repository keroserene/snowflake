import Snowflake.Proofs.Safelog
/-!
Coverage: an independent grammar `AddrGo` of the address spellings Go's `net` package prints or accepts is
contained in the language of the address pattern of shape `addressShapeN n` — completely for `n ≥ 6`, for
smaller `n` except for more than `n + 1` groups on one side of `::`.
-/
namespace Snowflake.Safelog
open Snowflake.Rx

/-- Matching in every context: the patterns here have no anchors. -/
def L (r : Rx) (a : List Tok) : Prop := ∀ l t, Matches r l a t

theorem L_eps : L .eps [] := fun l t => .eps l t
theorem L_cls {rs : List (Nat × Nat)} {x : Tok} (h : clsMem rs x.r = true) : L (.cls rs) [x] :=
  fun l t => .cls rs l x t h
theorem L_cat {a b : Rx} {m₁ m₂ : List Tok} (h1 : L a m₁) (h2 : L b m₂) : L (.cat a b) (m₁ ++ m₂) :=
  fun _ _ => .cat (h1 _ _) (h2 _ _)
theorem L_altL {a b : Rx} {m : List Tok} (h : L a m) : L (.alt a b) m := fun _ _ => .altL (h _ _)
theorem L_altR {a b : Rx} {m : List Tok} (h : L b m) : L (.alt a b) m := fun _ _ => .altR (h _ _)

theorem L_optN (r : Rx) (e : Nat) (ps : List (List Tok)) (h : ps.length ≤ e) (hp : ∀ p ∈ ps, L r p) :
    L (optN r e) ps.flatten := by
  induction e generalizing ps with
  | zero =>
    obtain rfl := List.eq_nil_of_length_eq_zero (Nat.le_zero.1 h)
    exact L_eps
  | succ e ih =>
    cases ps with
    | nil => exact L_altR L_eps
    | cons p ps =>
      exact L_altL (L_cat (hp p (.head _)) (ih ps (Nat.le_of_succ_le_succ h) fun q hq => hp q (.tail _ hq)))

theorem L_rep (r : Rx) (e : Nat) : ∀ (m : Nat) (ps : List (List Tok)), m ≤ ps.length → ps.length ≤ m + e →
    (∀ p ∈ ps, L r p) → L (rep r m e) ps.flatten := by
  intro m ps h1 h2 hp
  induction m generalizing ps with
  | zero => exact L_optN r e ps (by simpa using h2) hp
  | succ m ih =>
    cases ps with
    | nil => cases h1
    | cons p ps =>
      exact L_cat (hp p (.head _))
        (ih ps (Nat.le_of_succ_le_succ h1) (by simp at h2 ⊢; omega) fun q hq => hp q (.tail _ hq))

def isDigit (r : Nat) : Prop := 48 ≤ r ∧ r ≤ 57
def isHex (r : Nat) : Prop := (48 ≤ r ∧ r ≤ 57) ∨ (65 ≤ r ∧ r ≤ 70) ∨ (97 ≤ r ∧ r ≤ 102)

def Dec (lo hi : Nat) (d : List Tok) : Prop := lo ≤ d.length ∧ d.length ≤ hi ∧ ∀ x ∈ d, isDigit x.r
def HexGroup (g : List Tok) : Prop := 1 ≤ g.length ∧ g.length ≤ 4 ∧ ∀ x ∈ g, isHex x.r
def IsColon (c : Tok) : Prop := c.r = 58
def IsDot (c : Tok) : Prop := c.r = 46

/-- `k` groups, each followed by a colon: `g:g:…g:`. -/
def GroupsC (k : Nat) (s : List Tok) : Prop :=
  ∃ ps : List (List Tok), ps.length = k ∧ s = ps.flatten ∧ ∀ p ∈ ps, ∃ g c, p = g ++ [c] ∧ HexGroup g ∧ IsColon c

/-- `k` groups separated by colons (nothing for `k = 0`). -/
def Side (k : Nat) (s : List Tok) : Prop :=
  (k = 0 ∧ s = []) ∨ (∃ pre g, 1 ≤ k ∧ GroupsC (k - 1) pre ∧ HexGroup g ∧ s = pre ++ g)

def V4 (a : List Tok) : Prop :=
  ∃ d₁ d₂ d₃ d₄ p₁ p₂ p₃, Dec 1 3 d₁ ∧ Dec 1 3 d₂ ∧ Dec 1 3 d₃ ∧ Dec 1 3 d₄ ∧ IsDot p₁ ∧ IsDot p₂ ∧ IsDot p₃ ∧
    a = d₁ ++ ([p₁] ++ (d₂ ++ ([p₂] ++ (d₃ ++ ([p₃] ++ d₄)))))

/-- `::` with `l` groups before and `r` after it. -/
def V6Comp (l r : Nat) (a : List Tok) : Prop :=
  ∃ sl sr c₁ c₂, Side l sl ∧ Side r sr ∧ IsColon c₁ ∧ IsColon c₂ ∧ a = sl ++ ([c₁, c₂] ++ sr)

/-- `::` with `l` groups before it and `r` groups and a dotted quad after it. -/
def V6Comp4 (l r : Nat) (a : List Tok) : Prop :=
  ∃ sl pre v c₁ c₂, Side l sl ∧ GroupsC r pre ∧ V4 v ∧ IsColon c₁ ∧ IsColon c₂ ∧ a = sl ++ ([c₁, c₂] ++ (pre ++ v))

/-- Eight groups; six groups and a dotted quad; compressed forms, where `okc l r` / `ok4 l r` say which group
counts around `::` are meant. -/
def V6With (okc ok4 : Nat → Nat → Prop) (a : List Tok) : Prop :=
  (∃ pre g, GroupsC 7 pre ∧ HexGroup g ∧ a = pre ++ g)
  ∨ (∃ pre v, GroupsC 6 pre ∧ V4 v ∧ a = pre ++ v)
  ∨ (∃ l r, okc l r ∧ V6Comp l r a)
  ∨ (∃ l r, ok4 l r ∧ V6Comp4 l r a)

/-- An address as Go prints or accepts it: IPv4 or IPv6, bare, `[v6]`, `v4:port`, `[v6]:port`. -/
def AddrWith (okc ok4 : Nat → Nat → Prop) (a : List Tok) : Prop :=
  V4 a ∨ V6With okc ok4 a
  ∨ (∃ ip lb rb, V6With okc ok4 ip ∧ lb.r = 91 ∧ rb.r = 93 ∧ a = [lb] ++ (ip ++ [rb]))
  ∨ (∃ ip c p, V4 ip ∧ IsColon c ∧ Dec 1 5 p ∧ a = ip ++ ([c] ++ p))
  ∨ (∃ ip lb rb c p, V6With okc ok4 ip ∧ lb.r = 91 ∧ rb.r = 93 ∧ IsColon c ∧ Dec 1 5 p ∧
      a = ([lb] ++ (ip ++ [rb])) ++ ([c] ++ p))

/-- What `net.ParseIP` accepts: `::` stands for at least one group, so at most seven groups are written. -/
def AddrGo : List Tok → Prop := AddrWith (fun l r => l + r ≤ 7) (fun l r => l + r + 2 ≤ 7)

theorem L_rep_cls {rs : List (Nat × Nat)} {lo ex : Nat} {d : List Tok} (h1 : lo ≤ d.length)
    (h2 : d.length ≤ lo + ex) (h3 : ∀ x ∈ d, clsMem rs x.r = true) : L (rep (.cls rs) lo ex) d := by
  have := L_rep (.cls rs) ex lo (d.map fun x => [x]) (by simpa using h1) (by simpa using h2)
    (by
      intro p hp
      obtain ⟨x, hx, rfl⟩ := List.mem_map.1 hp
      exact L_cls (h3 x hx))
  rwa [← List.flatMap_def, List.flatMap_singleton'] at this

theorem L_digits {lo ex : Nat} {d : List Tok} (h : Dec lo (lo + ex) d) : L (rep (.cls digitCls) lo ex) d :=
  L_rep_cls h.1 h.2.1 fun x hx => by have := h.2.2 x hx; simp [digitCls, isDigit] at *; omega

theorem L_hexGroup {g : List Tok} (h : HexGroup g) : L hexGroupRx g :=
  L_rep_cls (Nat.zero_le _) (by simpa using h.2.1) fun x hx => by
    have := h.2.2 x hx; simp [hexCls, isHex] at *; omega

theorem L_colon {c : Tok} (h : IsColon c) : L colonRx [c] := L_cls (by simp [show c.r = 58 from h])
theorem L_dot {c : Tok} (h : IsDot c) : L dotRx [c] := L_cls (by simp [show c.r = 46 from h])

theorem L_optGroup_some {g : List Tok} (h : HexGroup g) : L optGroupRx g := L_altL (L_hexGroup h)
theorem L_optGroup_none : L optGroupRx [] := L_altR L_eps

theorem L_groupsC {k lo ex : Nat} {s : List Tok} (h : GroupsC k s) (h1 : lo ≤ k) (h2 : k ≤ lo + ex) :
    L (rep groupColonRx lo ex) s := by
  obtain ⟨ps, hk, rfl, hp⟩ := h
  apply L_rep groupColonRx ex lo ps (by omega) (by omega)
  intro p hpm
  obtain ⟨g, c, rfl, hg, hc⟩ := hp p hpm
  exact L_cat (L_hexGroup hg) (L_colon hc)

theorem L_v4 {a : List Tok} (h : V4 a) : L ipv4Shape a := by
  obtain ⟨d₁, d₂, d₃, d₄, p₁, p₂, p₃, h1, h2, h3, h4, q1, q2, q3, rfl⟩ := h
  exact L_cat (L_digits h1) (L_cat (L_dot q1) (L_cat (L_digits h2) (L_cat (L_dot q2) (L_cat (L_digits h3)
    (L_cat (L_dot q3) (L_digits h4))))))

theorem side_parts {n k : Nat} {s : List Tok} (h : Side k s) (hk : k ≤ n + 1) :
    ∃ s₁ s₂, s = s₁ ++ s₂ ∧ L (rep groupColonRx 0 n) s₁ ∧ L optGroupRx s₂ := by
  rcases h with ⟨_, rfl⟩ | ⟨pre, g, h1, hpre, hg, rfl⟩
  · exact ⟨[], [], rfl, L_groupsC (k := 0) ⟨[], rfl, rfl, by simp⟩ (Nat.le_refl _) (by omega), L_optGroup_none⟩
  · exact ⟨pre, g, rfl, L_groupsC hpre (Nat.zero_le _) (by omega), L_optGroup_some hg⟩

theorem L_dcolon {c₁ c₂ : Tok} (h1 : IsColon c₁) (h2 : IsColon c₂) : L (.cat colonRx colonRx) [c₁, c₂] :=
  L_cat (L_colon h1) (L_colon h2)

theorem L_v6 {n : Nat} {okc ok4 : Nat → Nat → Prop}
    (hc : ∀ l r, okc l r → l ≤ n + 1 ∧ r ≤ n + 1) (h4 : ∀ l r, ok4 l r → l ≤ n + 1 ∧ r ≤ n)
    {a : List Tok} (h : V6With okc ok4 a) :
    L (ipv6FullShape (ipv6AddressParts 5 2) (ipv6CompressedParts n) ipv4Shape) a := by
  rcases h with ⟨pre, g, hpre, hg, rfl⟩ | ⟨pre, v, hpre, hv, rfl⟩ | ⟨l, r, hok, sl, sr, c₁, c₂, hsl, hsr, hc1, hc2, rfl⟩
      | ⟨l, r, hok, sl, pre, v, c₁, c₂, hsl, hpre, hv, hc1, hc2, rfl⟩
  · -- eight groups: (g:){7} g
    exact L_altR (L_altR (L_altL (L_cat (L_groupsC hpre (by omega) (by omega)) (L_optGroup_some hg))))
  · -- six groups and a dotted quad: (g:){6} then nothing then v4
    exact L_altL (L_cat (L_groupsC hpre (by omega) (by omega)) (L_cat L_optGroup_none (L_v4 hv)))
  · -- compressed: (g:){0,n}(g)? on each side of `::`
    obtain ⟨hl, hr⟩ := hc l r hok
    obtain ⟨a₁, a₂, rfl, ha1, ha2⟩ := side_parts hsl hl
    obtain ⟨b₁, b₂, rfl, hb1, hb2⟩ := side_parts hsr hr
    rw [List.append_assoc]
    exact L_altR (L_altR (L_altR (L_cat ha1 (L_cat ha2 (L_cat (L_dcolon hc1 hc2) (L_cat hb1 hb2))))))
  · -- compressed with a dotted quad: after `::` come (g:){r}, no bare group, then v4
    obtain ⟨hl, hr⟩ := h4 l r hok
    obtain ⟨a₁, a₂, rfl, ha1, ha2⟩ := side_parts hsl hl
    rw [List.append_assoc]
    exact L_altR (L_altL (L_cat ha1 (L_cat ha2 (L_cat (L_dcolon hc1 hc2)
      (L_cat (L_groupsC hpre (Nat.zero_le _) (by omega)) (L_cat L_optGroup_none (L_v4 hv)))))))

theorem L_port {c : Tok} {p : List Tok} (hc : IsColon c) (hp : Dec 1 5 p) : L portShape ([c] ++ p) :=
  L_altL (L_cat (L_colon hc) (L_digits hp))

theorem L_noport : L portShape [] := L_altR L_eps

theorem L_bracketed {r : Rx} {ip : List Tok} {lb rb : Tok} (h : L r ip) (h1 : lb.r = 91) (h2 : rb.r = 93) :
    L (.cat (.cls [(91, 91)]) (.cat r (.cls [(93, 93)]))) ([lb] ++ (ip ++ [rb])) :=
  L_cat (L_cls (by simp [h1])) (L_cat h (L_cls (by simp [h2])))

theorem L_addr {n : Nat} {okc ok4 : Nat → Nat → Prop}
    (hc : ∀ l r, okc l r → l ≤ n + 1 ∧ r ≤ n + 1) (h4 : ∀ l r, ok4 l r → l ≤ n + 1 ∧ r ≤ n)
    {a : List Tok} (h : AddrWith okc ok4 a) : L (addressShapeN n) a := by
  have v6 := fun {x : List Tok} (hx : V6With okc ok4 x) => L_v6 hc h4 hx
  unfold addressShapeN addressShape
  rcases h with h | h | ⟨ip, lb, rb, hip, h1, h2, rfl⟩ | ⟨ip, c, p, hip, hc', hp, rfl⟩
      | ⟨ip, lb, rb, c, p, hip, h1, h2, hc', hp, rfl⟩
  · simpa using L_cat (L_altL (L_v4 h)) L_noport
  · simpa using L_cat (L_altR (L_altR (v6 h))) L_noport
  · simpa using L_cat (L_altR (L_altL (L_bracketed (v6 hip) h1 h2))) L_noport
  · exact L_cat (L_altL (L_v4 hip)) (L_port hc' hp)
  · exact L_cat (L_altR (L_altL (L_bracketed (v6 hip) h1 h2))) (L_port hc' hp)

theorem L_addrGo {n : Nat} (hn : 6 ≤ n) {a : List Tok} (h : AddrGo a) : L (addressShapeN n) a :=
  L_addr (fun l r (h : l + r ≤ 7) => by omega) (fun l r (h : l + r + 2 ≤ 7) => by omega) h

end Snowflake.Safelog
