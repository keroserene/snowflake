import Snowflake.Model.Server
import Snowflake.Proofs.EncapFrames
/-!
Invariants of the server carrier-layer model (C05 / C01).  `step` is unfolded once (`Step.of_step`) into the
relation `Step`: which carrier record changed by which `CStep`, and what happened to the queues.  The
per-carrier invariant `COK` is proved over `CStep`, the global ones (`GOK`, `GOK2`) over `Step`.
-/
namespace Snowflake.Server
open Snowflake.Encap

/-- One carrier: what each program counter says about the ghost fields (`absent` … `run`), what `presented`
says about `consumed` (`none`, `some`), and the bytes consumed after the preface are whole chunks carrying
exactly the queued packets (`frames`). -/
structure COK (token : Bytes) (c : Carrier) : Prop where
  split : c.allIn = c.consumed ++ c.buf
  absent : c.pc = .absent → c.allIn = [] ∧ c.presented = none ∧ c.consumed = []
  tok : c.pc = .token → c.consumed = [] ∧ c.presented = none
  cid : c.pc = .cid → c.consumed = token ∧ c.presented = none
  run : ∀ id, c.pc = .run id → c.presented = some id
  none : c.presented = none → c.queued = [] ∧ c.written = [] ∧ c.frames = []
  some : ∀ id, c.presented = some id → c.consumed = token ++ id ++ c.frames
  frames : Frames c.frames c.queued

theorem cok_default (token : Bytes) : COK token {} := by
  constructor <;> simp [frames_nil]

/-- Incoming: every queued packet came from a carrier that presented its tag (`hist`, `inq`).  Outgoing: a queue
is what was enqueued minus what was taken, and a carrier was written only packets taken for its id. -/
structure GOK (st : St) : Prop where
  hist : ∀ p id k, (p, id, k) ∈ st.inHist → (st.cs k).presented = some id ∧ p ∈ (st.cs k).queued
  inq : ∀ p id, (p, id) ∈ st.inq → ∃ k, (p, id, k) ∈ st.inHist
  fifo : ∀ id, st.outq id = (st.enq id).drop (st.deq id)
  written : ∀ k id, (st.cs k).presented = some id → List.Sublist (st.cs k).written ((st.enq id).take (st.deq id))

/-- Beside `GOK` because each needs the other to be preserved: `gok2_step` uses `GOK.fifo`, `gok_step` uses `deqle`. -/
structure GOK2 (st : St) : Prop where
  deqle : ∀ id, st.deq id ≤ (st.enq id).length

/-- The network and the handler acting on a carrier record: everything but the write loop. -/
inductive CStep (tok : Bytes) (c : Carrier) : Carrier → Prop
  | «open» : c.pc = .absent → CStep tok c { c with pc := .token }
  | recv bs : c.pc ≠ .absent → CStep tok c { c with buf := c.buf ++ bs, allIn := c.allIn ++ bs }
  | cut : CStep tok c { c with isCut := true }
  | close : CStep tok c { c with pc := .closed }
  | tokOk : c.pc = .token → c.buf.take 8 = tok →
      CStep tok c { c with pc := .cid, buf := c.buf.drop 8, consumed := c.consumed ++ c.buf.take 8 }
  | cidOk : c.pc = .cid →
      CStep tok c { c with pc := .run (c.buf.take 8), buf := c.buf.drop 8,
                           consumed := c.consumed ++ c.buf.take 8, presented := some (c.buf.take 8) }
  | chunk {i p rest} : c.pc = .run i → next (c.buf.length + 1) c.buf = (.chunk p, rest) →
      CStep tok c { c with buf := rest, queued := c.queued ++ [p],
                           consumed := c.consumed ++ c.buf.take (c.buf.length - rest.length),
                           frames := c.frames ++ c.buf.take (c.buf.length - rest.length) }

/-- The label is tied to the change only where something rests on it: `carrier` fits every label. -/
inductive Step (st : St) : Lab → St → Prop
  | carrier {k c' l} : CStep st.token (st.cs k) c' → Step st l { st with cs := upd st.cs k c' }
  | accept {k i p c'} : (st.cs k).pc = .run i → CStep st.token (st.cs k) c' → p ∈ c'.queued →
      Step st (.hStep k)
        { st with cs := upd st.cs k c', inq := st.inq ++ [(p, i)], inHist := st.inHist ++ [(p, i, k)] }
  | enqueue {p i} : Step st (.kcpWrite p i)
      { st with outq := updC st.outq i (st.outq i ++ [p]), enq := updC st.enq i (st.enq i ++ [p]) }
  | drop : Step st (.kcpWrite p i) st
  | lose : st.outq i = p :: rest →
      Step st (.wStep k) { st with outq := updC st.outq i rest, deq := updC st.deq i (st.deq i + 1) }
  | write {k i p rest} : (st.cs k).pc = .run i → st.outq i = p :: rest →
      Step st (.wStep k)
        { st with outq := updC st.outq i rest, deq := updC st.deq i (st.deq i + 1),
                  cs := upd st.cs k { st.cs k with written := (st.cs k).written ++ [p] } }
  | read : st.inq = x :: rest → Step st .kcpRead { st with inq := rest }

section
variable {st st' : St} {l : Lab} {tok : Bytes} {c c' : Carrier}

/-- The only place where `step` is unfolded. -/
theorem Step.of_step (hs : step st l = some st') : Step st l st' := by
  cases l <;> simp only [step, hStep] at hs <;> repeat' split at hs
  all_goals cases hs
  -- `open`, `recv`, `cut`
  · exact .carrier (.open ‹_›)
  · exact .carrier (.recv _ (‹_ ∧ _›).1)
  · exact .carrier .cut
  -- `hStep`: at the token, at the ClientID, in the read loop
  · exact .carrier (.tokOk ‹_› ‹_›)
  · exact .carrier .close
  · exact .carrier .close
  · exact .carrier (.cidOk ‹_›)
  · exact .carrier .close
  · exact .accept ‹_› (.chunk ‹_› ‹_›) (by simp)
  · exact .carrier (.chunk ‹_› ‹_›)
  · exact .carrier .close
  · exact .carrier .close
  -- `kcpWrite` (queued, dropped), `wStep` (carrier cut, written), `kcpRead`
  · exact .enqueue
  · exact .drop
  · exact .lose ‹_›
  · exact .write ‹_› ‹_›
  · exact .read ‹_›

theorem CStep.cok (s : CStep tok c c') (h : COK tok c) : COK tok c' := by
  cases s with
  | «open» hpc =>
    obtain ⟨_, hp, hcn⟩ := h.absent hpc
    exact { h with absent := nofun, tok := fun _ => ⟨hcn, hp⟩, cid := nofun, run := nofun }
  | recv bs hpc =>
    exact { h with split := by simp [h.split], absent := fun e => absurd e hpc }
  | cut => exact { h with }
  | close => exact { h with absent := nofun, tok := nofun, cid := nofun, run := nofun }
  | tokOk hpc htok =>
    obtain ⟨hcn, hp⟩ := h.tok hpc
    exact { h with split := by simp [h.split], absent := nofun, tok := nofun,
                   cid := fun _ => ⟨by simp [hcn, htok], hp⟩, run := nofun, some := by simp [hp] }
  | cidOk hpc =>
    obtain ⟨hcn, hp⟩ := h.cid hpc
    obtain ⟨_, _, hf⟩ := h.none hp
    exact { split := by simp [h.split], absent := nofun, tok := nofun, cid := nofun,
            run := fun _ e => by cases e; rfl, none := nofun,
            some := fun _ e => by cases e; simp [hcn, hf], frames := h.frames }
  | @chunk i p rest hpc hnx =>
    -- `delta`, the bytes of this chunk, is what the model cuts off the buffer
    obtain ⟨delta, hd, _, hloc⟩ := next_local _ _ _ _ hnx nofun nofun
    have hdelta : c.buf.take (c.buf.length - rest.length) = delta := by rw [hd]; simp
    have hpr := h.run i hpc
    rw [hdelta]
    exact { split := by simp [h.split, hd], absent := by simp [hpc], tok := by simp [hpc],
            cid := by simp [hpc], run := h.run, none := by simp [hpr],
            some := fun id e => by simp [h.some id e], frames := h.frames.append hloc.frames }

theorem COK.write (h : COK tok c) {id : CID} (hpc : c.pc = .run id) (p : Bytes) :
    COK tok { c with written := c.written ++ [p] } :=
  { h with none := by simp [h.run id hpc] }

theorem token_step (s : Step st l st') : st'.token = st.token := by
  cases s <;> rfl

theorem upd_cases {α} (m : Nat → α) (k : Nat) (v : α) (q : Nat) :
    upd m k v q = m q ∨ q = k ∧ upd m k v q = v := by
  by_cases e : q = k
  · exact .inr ⟨e, e ▸ upd_same ..⟩
  · exact .inl (upd_ne _ _ _ _ e)

theorem Step.cs (s : Step st l st') (q : Nat) :
    st'.cs q = st.cs q ∨ CStep st.token (st.cs q) (st'.cs q) ∨
      ∃ i p rest, l = .wStep q ∧ (st.cs q).pc = .run i ∧ st.outq i = p :: rest
        ∧ st'.cs q = { st.cs q with written := (st.cs q).written ++ [p] } := by
  cases s with
  | @carrier k c' _ c | @accept k _ _ c' _ c =>
    rcases upd_cases st.cs k c' q with e | ⟨rfl, e⟩
    · exact .inl e
    · exact .inr (.inl (by simpa only [e] using c))
  | @write k i p rest hpc ho =>
    rcases upd_cases st.cs k _ q with e | ⟨rfl, e⟩
    · exact .inl e
    · exact .inr (.inr ⟨i, p, rest, rfl, hpc, ho, e⟩)
  | _ => exact .inl rfl

theorem cok_step (s : Step st l st') (h : ∀ q, COK st.token (st.cs q)) (q : Nat) : COK st'.token (st'.cs q) := by
  rw [token_step s]
  rcases s.cs q with e | c | ⟨i, p, _, _, hpc, _, e⟩
  · exact e ▸ h q
  · exact c.cok (h q)
  · exact e ▸ (h q).write hpc p

theorem CStep.written (s : CStep tok c c') : c'.written = c.written := by
  cases s <;> rfl

theorem written_frame (l : Lab) (hs : step st l = some st') (q : Nat) :
    (st'.cs q).written = (st.cs q).written ∨
      ∃ id p rest, l = .wStep q ∧ (st.cs q).pc = .run id ∧ st.outq id = p :: rest
        ∧ (st'.cs q).written = (st.cs q).written ++ [p] := by
  rcases (Step.of_step hs).cs q with e | c | ⟨i, p, rest, hl, hpc, ho, e⟩
  · exact .inl (by rw [e])
  · exact .inl c.written
  · exact .inr ⟨i, p, rest, hl, hpc, ho, by rw [e]⟩

/-- `COK` is needed at `cidOk` only: there `presented` is overwritten, and was `none`. -/
theorem CStep.mono (s : CStep tok c c') (h : COK tok c) :
    (∀ id, c.presented = some id → c'.presented = some id) ∧ (∀ p ∈ c.queued, p ∈ c'.queued) ∧
      ∀ id, c'.presented = some id → c.presented = some id ∨ c.written = [] := by
  cases s with
  | cidOk hpc =>
    obtain ⟨_, hp⟩ := h.cid hpc
    exact ⟨by simp [hp], fun _ h => h, fun _ _ => .inr (h.none hp).2.1⟩
  | chunk => exact ⟨fun _ h => h, fun _ h => List.mem_append_left _ h, fun _ h => .inl h⟩
  | _ => exact ⟨fun _ h => h, fun _ h => h, fun _ h => .inl h⟩

theorem drop_eq_cons {α} {l : List α} {n : Nat} {x : α} {r : List α} (h : l.drop n = x :: r) :
    n < l.length ∧ l.take (n + 1) = l.take n ++ [x] ∧ l.drop (n + 1) = r := by
  have hx : l[n]? = some x := by rw [← List.head?_drop, h]; rfl
  exact ⟨(List.getElem?_eq_some_iff.mp hx).1, by rw [List.take_add_one, hx]; rfl, by rw [← List.tail_drop, h]; rfl⟩

theorem gok2_step (s : Step st l st') (g2 : GOK2 st) (g : GOK st) : GOK2 st' := by
  constructor
  intro j
  have h0 := g2.deqle j
  cases s with
  | @enqueue p i =>
    by_cases e : j = i
    · subst e; simp; omega
    · simpa [e] using h0
  | @lose i _ _ _ ho | @write _ i _ _ _ ho =>
    by_cases e : j = i
    · subst e; simp only [updC_same]; exact (drop_eq_cons ((g.fifo j).symm.trans ho)).1
    · simpa [e] using h0
  | _ => exact h0

theorem GOK.written_upd (g : GOK st) {k : Nat} (c : CStep st.token (st.cs k) c')
    (hk : COK st.token (st.cs k)) (q : Nat) (id : CID) (hp : (upd st.cs k c' q).presented = some id) :
    (upd st.cs k c' q).written.Sublist ((st.enq id).take (st.deq id)) := by
  rcases upd_cases st.cs k c' q with e | ⟨rfl, e⟩ <;> rw [e] at hp ⊢
  · exact g.written q id hp
  · rw [c.written]
    rcases (c.mono hk).2.2 id hp with e' | e'
    · exact g.written q id e'
    · exact e' ▸ List.nil_sublist _

theorem GOK.taken (g : GOK st) {i : CID} {p : Bytes} {rest : List Bytes} (ho : st.outq i = p :: rest) (j : CID) :
    updC st.outq i rest j = (st.enq j).drop (updC st.deq i (st.deq i + 1) j) ∧
      ((st.enq j).take (st.deq j)).Sublist ((st.enq j).take (updC st.deq i (st.deq i + 1) j)) := by
  by_cases e : j = i
  · subst e
    obtain ⟨_, ht, hd⟩ := drop_eq_cons ((g.fifo j).symm.trans ho)
    simp only [updC_same, ht]
    exact ⟨hd.symm, List.sublist_append_left ..⟩
  · simp only [updC_ne _ _ _ _ e]
    exact ⟨g.fifo j, .refl _⟩

theorem gok_step (s : Step st l st') (h : ∀ q, COK st.token (st.cs q)) (g : GOK st) (g2 : GOK2 st) : GOK st' := by
  have hist : ∀ p id k, (p, id, k) ∈ st.inHist → (st'.cs k).presented = some id ∧ p ∈ (st'.cs k).queued := by
    intro p id k hm
    obtain ⟨hp, hq⟩ := g.hist p id k hm
    rcases s.cs k with e | c | ⟨_, _, _, _, _, _, e⟩
    · rw [e]; exact ⟨hp, hq⟩
    · exact ⟨(c.mono (h k)).1 id hp, (c.mono (h k)).2.1 p hq⟩
    · rw [e]; exact ⟨hp, hq⟩
  cases s with
  | @carrier k _ _ c => exact ⟨hist, g.inq, g.fifo, g.written_upd c (h k)⟩
  | @accept k i p c' hpc c hp =>
    refine ⟨fun p' i' k' hm => ?_, fun p' i' hm => ?_, g.fifo, g.written_upd c (h k)⟩
    · rcases List.mem_append.mp hm with hm | hm
      · exact hist p' i' k' hm
      · cases List.mem_singleton.mp hm
        simp only [upd_same]
        exact ⟨(c.mono (h k)).1 i ((h k).run i hpc), hp⟩
    · rcases List.mem_append.mp hm with hm | hm
      · exact (g.inq p' i' hm).imp fun _ => List.mem_append_left _
      · cases List.mem_singleton.mp hm
        exact ⟨k, List.mem_append_right _ (List.mem_singleton_self _)⟩
  | @enqueue p i =>
    refine ⟨hist, g.inq, fun j => ?_, fun q j hp => ?_⟩
    · by_cases e : j = i
      · subst e; simp only [updC_same]; rw [g.fifo j, List.drop_append_of_le_length (g2.deqle j)]
      · simp only [updC_ne _ _ _ _ e]; exact g.fifo j
    · by_cases e : j = i
      · subst e; simp only [updC_same]; rw [List.take_append_of_le_length (g2.deqle j)]; exact g.written q j hp
      · simp only [updC_ne _ _ _ _ e]; exact g.written q j hp
  | drop => exact g
  | read hq => exact ⟨hist, fun p id hm => g.inq p id (hq ▸ List.mem_cons_of_mem _ hm), g.fifo, g.written⟩
  | lose ho => exact ⟨hist, g.inq, fun j => (g.taken ho j).1, fun q j hp => (g.written q j hp).trans (g.taken ho j).2⟩
  | @write k i p rest hpc ho =>
    refine ⟨hist, g.inq, fun j => (g.taken ho j).1, fun q j hp => ?_⟩
    by_cases e : q = k
    · -- the carrier written to presented `i`, and `p` is the packet just taken for `i`
      subst e
      simp only [upd_same] at hp ⊢
      cases ((h q).run i hpc).symm.trans hp
      simp only [updC_same, (drop_eq_cons ((g.fifo i).symm.trans ho)).2.1]
      exact (g.written q i hp).append (.refl _)
    · simp only [upd_ne _ _ _ _ e] at hp ⊢
      exact (g.written q j hp).trans (g.taken ho j).2

end
end Snowflake.Server
