import Snowflake.Base.Rx
/-!
Theorems about `Snowflake.Rx` that hold for every expression: the backtracking matcher, `find` and the
replacement loop against the denotation `Matches`; the structural analyses; how `decode` cuts bytes into tokens.
Six of them (`findFrom_none`, `findFrom_priority`, `tokensOf_replPieces`, `hits_replPieces`, `render_weight_lt`,
`render_ends_nl`) have no user here: they state the model's properties in the form the C07 check audits by name.
-/
namespace Snowflake.Rx

@[simp] theorem clsMem_nil (x : Nat) : clsMem [] x = false := rfl

@[simp] theorem clsMem_cons (lo hi : Nat) (rest : List (Nat × Nat)) (x : Nat) :
    clsMem ((lo, hi) :: rest) x = true ↔ (lo ≤ x ∧ x ≤ hi) ∨ clsMem rest x = true := by
  simp [clsMem]

theorem matches_cat_iff {a b : Rx} {l m t : List Tok} : Matches (.cat a b) l m t ↔
    ∃ m₁ m₂, m = m₁ ++ m₂ ∧ Matches a l m₁ (m₂ ++ t) ∧ Matches b (m₁.reverse ++ l) m₂ t :=
  ⟨fun h => by cases h with | cat h1 h2 => exact ⟨_, _, rfl, h1, h2⟩,
   fun ⟨_, _, e, h1, h2⟩ => e ▸ .cat h1 h2⟩

theorem matches_alt_iff {a b : Rx} {l m t : List Tok} :
    Matches (.alt a b) l m t ↔ Matches a l m t ∨ Matches b l m t :=
  ⟨fun h => by cases h with | altL h => exact .inl h | altR h => exact .inr h,
   fun h => h.elim .altL .altR⟩

theorem matches_cap_iff {i : Nat} {a : Rx} {l m t : List Tok} : Matches (.cap i a) l m t ↔ Matches a l m t :=
  ⟨fun h => by cases h with | cap h => exact h, .cap⟩

@[elab_as_elim]
theorem Matches.star_induction {a : Rx} {P : ∀ l m t, Matches (.star a) l m t → Prop}
    (nil : ∀ l t, P l [] t (.starNil a l t))
    (cons : ∀ {l m₁ m₂ t} (h₁ : Matches a l m₁ (m₂ ++ t)) (h₂ : Matches (.star a) (m₁.reverse ++ l) m₂ t),
      P (m₁.reverse ++ l) m₂ t h₂ → P l (m₁ ++ m₂) t (.starCons h₁ h₂))
    {l m t : List Tok} (h : Matches (.star a) l m t) : P l m t h := by
  -- the recursor of `Matches` wants the expression as a variable
  have general : ∀ {s l m t} (h : Matches s l m t) (e : s = .star a), P l m t (e ▸ h) := by
    intro s l m t h
    induction h with
    | starNil _ l t => intro e; cases e; exact nil l t
    | starCons h1 h2 _ ih => intro e; cases e; exact cons h1 h2 (ih rfl)
    | _ => intro e; cases e
  exact general h rfl

theorem matches_star_mono {a b : Rx} (h : ∀ l m t, Matches a l m t → Matches b l m t) {l m t : List Tok}
    (hs : Matches (.star a) l m t) : Matches (.star b) l m t :=
  hs.star_induction (.starNil b)
    fun h1 _ ih => .starCons (h _ _ _ h1) ih

/-! ## `run` against `Matches` -/

theorem starLoop_sound {α} (a : Rx)
    (iha : ∀ (l xs : List Tok) (k : Pos → Option α) (v : α), run a (l, xs) k = some v →
      ∃ m t, xs = m ++ t ∧ Matches a l m t ∧ k (m.reverse ++ l, t) = some v)
    {n : Nat} {first : Bool} {p : Pos} {k : Pos → Option α} {v : α}
    (h : starLoop (fun p' k' => run a p' k') n first p k = some v) :
    ∃ m t, p.2 = m ++ t ∧ Matches (.star a) p.1 m t ∧ k (m.reverse ++ p.1, t) = some v := by
  -- cases of `starLoop`: no fuel (1), the round failed (3), the round succeeded (2)
  fun_induction starLoop (fun p' k' => run a p' k') n first p k generalizing v with
  | case1 first p k | case3 n first p k _ _ => exact ⟨[], p.2, rfl, .starNil .., h⟩
  | case2 n first p k w hw ih =>
    cases h
    obtain ⟨m₁, t₁, hx, hm, hk⟩ := iha _ _ _ _ hw
    split at hk
    · -- the round consumed input: the loop went on
      obtain ⟨m₂, t, rfl, hs, hk'⟩ := ih _ hk
      exact ⟨m₁ ++ m₂, t, by simp [hx], .starCons hm hs, by simpa using hk'⟩
    · -- an empty round: only a first one hands over to `k`
      rename_i hlen
      obtain rfl : m₁ = [] := by
        cases m₁ with
        | nil => rfl
        | cons y ys => exact absurd (by simp [hx]; omega) hlen
      split at hk
      · exact ⟨[], p.2, rfl, .starNil .., by simpa [hx] using hk⟩
      · cases hk

theorem run_sound {α} (r : Rx) : ∀ (l xs : List Tok) (k : Pos → Option α) (v : α),
    run r (l, xs) k = some v → ∃ m t, xs = m ++ t ∧ Matches r l m t ∧ k (m.reverse ++ l, t) = some v := by
  intro l xs k v h
  induction r generalizing l xs k v with
  | eps => exact ⟨[], xs, rfl, .eps l xs, h⟩
  | cls rs =>
    cases xs with
    | nil => cases h
    | cons x xs =>
      obtain ⟨hx, h⟩ := Option.ite_none_right_eq_some.1 h
      exact ⟨[x], xs, rfl, .cls rs l x xs hx, h⟩
  | cat a b iha ihb =>
    obtain ⟨m₁, t₁, rfl, hm, hk⟩ := iha _ _ _ _ h
    obtain ⟨m₂, t, rfl, hm2, hk'⟩ := ihb _ _ _ _ hk
    exact ⟨m₁ ++ m₂, t, by simp, .cat hm hm2, by simpa using hk'⟩
  | alt a b iha ihb =>
    simp only [run] at h
    split at h
    · cases h
      obtain ⟨m, t, hx, hm, hk⟩ := iha _ _ _ _ ‹_›
      exact ⟨m, t, hx, .altL hm, hk⟩
    · obtain ⟨m, t, hx, hm, hk⟩ := ihb _ _ _ _ h
      exact ⟨m, t, hx, .altR hm, hk⟩
  | star a iha => exact starLoop_sound a iha h
  | cap i a iha =>
    obtain ⟨m, t, hx, hm, hk⟩ := iha _ _ _ _ h
    exact ⟨m, t, hx, .cap hm, hk⟩
  | bot =>
    obtain ⟨hl, h⟩ := Option.ite_none_right_eq_some.1 h
    obtain rfl : l = [] := by simpa using hl
    exact ⟨[], xs, rfl, .bot xs, h⟩
  | eot =>
    obtain ⟨hxs, h⟩ := Option.ite_none_right_eq_some.1 h
    obtain rfl : xs = [] := by simpa using hxs
    exact ⟨[], [], rfl, .eot l, h⟩
  | bol =>
    obtain ⟨hl, h⟩ := Option.ite_none_right_eq_some.1 h
    exact ⟨[], xs, rfl, .bol l xs hl, h⟩
  | eol =>
    obtain ⟨hxs, h⟩ := Option.ite_none_right_eq_some.1 h
    exact ⟨[], xs, rfl, .eol l xs hxs, h⟩

theorem isSome_match_fallthrough {α} {x y : Option α} (h : x.isSome ∨ y.isSome) :
    (match x with | some v => some v | none => y).isSome := by
  cases x with
  | some _ => rfl
  | none => simpa using h

theorem starLoop_complete {α} (a : Rx)
    (iha : ∀ {l m t : List Tok}, Matches a l m t → ∀ (k : Pos → Option α),
      (k (m.reverse ++ l, t)).isSome → (run a (l, m ++ t) k).isSome)
    {l m t : List Tok} (h : Matches (.star a) l m t) :
    ∀ (n : Nat) (first : Bool) (k : Pos → Option α), (m ++ t).length ≤ n →
      (k (m.reverse ++ l, t)).isSome →
      (starLoop (fun p' k' => run a p' k') n first (l, m ++ t) k).isSome := by
  induction h using Matches.star_induction with
  | nil l t =>
    intro n first k _ hk
    cases n with
    | zero => exact hk
    | succ n => exact isSome_match_fallthrough (.inr hk)
  | @cons l m₁ m₂ t h1 _ ihs =>
    intro n first k hn hk
    cases m₁ with
    | nil => -- an empty round adds nothing
      simpa using ihs n first k (by simpa using hn) (by simpa using hk)
    | cons y ys =>
      cases n with
      | zero => simp at hn
      | succ n =>
        -- the first round consumes input, so the loop goes on with the rest
        refine isSome_match_fallthrough (.inl ?_)
        rw [List.append_assoc]
        apply iha h1
        have hlt : (m₂ ++ t).length < (y :: ys ++ (m₂ ++ t)).length := by simp; omega
        simp only [hlt, if_true]
        apply ihs n false k
        · simp at hn ⊢; omega
        · simpa using hk

/-- Only `isSome`: `run` may succeed with a match of higher priority that the continuation also accepts. -/
theorem run_complete {α} {r : Rx} {l m t : List Tok} (h : Matches r l m t) (k : Pos → Option α)
    (hk : (k (m.reverse ++ l, t)).isSome) : (run r (l, m ++ t) k).isSome := by
  induction r generalizing l m t k with
  | cat a b iha ihb =>
    cases h with
    | cat h1 h2 =>
      simp only [run, List.append_assoc]
      exact iha h1 _ (ihb h2 _ (by simpa using hk))
  | alt a b iha ihb =>
    cases h with
    | altL h1 => exact isSome_match_fallthrough (.inl (iha h1 k hk))
    | altR h1 => exact isSome_match_fallthrough (.inr (ihb h1 k hk))
  | star a iha => exact starLoop_complete a iha h _ _ _ (Nat.le_refl _) hk
  | cap i a iha => cases h with | cap h1 => exact iha h1 k hk
  | cls rs => cases h with | cls _ _ x _ hm => simpa [run, hm] using hk
  | eps | bot | eot => cases h; exact hk
  | bol => cases h with | bol _ _ hl => simpa [run, hl] using hk
  | eol => cases h with | eol _ _ hl => simpa [run, hl] using hk

/-! ## `matchAt`, `findFrom` -/

theorem matchAt_sound {r : Rx} {l xs m t : List Tok} (h : matchAt r l xs = some (m, t)) :
    xs = m ++ t ∧ Matches r l m t := by
  unfold matchAt at h
  split at h
  · rename_i t' ht
    obtain ⟨m', _, rfl, hm, hk⟩ := run_sound r l xs (fun q => some q.2) t' ht
    cases hk
    cases h
    simpa using hm
  · cases h

theorem matchAt_complete {r : Rx} {l m t : List Tok} (h : Matches r l m t) :
    (matchAt r l (m ++ t)).isSome := by
  unfold matchAt
  have := run_complete h (fun q => some q.2) (by simp)
  split
  · simp
  · rename_i hn; rw [hn] at this; simp at this

theorem matchAt_none {r : Rx} {l xs m t : List Tok} (h : matchAt r l xs = none) (hx : xs = m ++ t) :
    ¬ Matches r l m t := by
  intro hm
  have := matchAt_complete hm
  rw [← hx, h] at this
  cases this

theorem findFrom_sound {r : Rx} {xs l s m t : List Tok} (h : findFrom r l xs = some (s, m, t)) :
    xs = s ++ (m ++ t) ∧ Matches r (s.reverse ++ l) m t ∧
    (∀ s' m' t', xs = s' ++ (m' ++ t') → Matches r (s'.reverse ++ l) m' t' → s.length ≤ s'.length) := by
  -- cases of `findFrom`: a match here (1, 3), none at all (2, 5), one later (4)
  fun_induction findFrom r l xs generalizing s m t with
  | case1 l m₀ t₀ h₀ | case3 l x xs m₀ t₀ h₀ =>
    cases h
    exact ⟨(matchAt_sound h₀).1, (matchAt_sound h₀).2, fun _ _ _ _ _ => Nat.zero_le _⟩
  | case2 | case5 => cases h
  | case4 l x xs h₀ s₀ m₀ t₀ hf ih =>
    cases h
    obtain ⟨hx, hm, hleft⟩ := ih hf
    refine ⟨by rw [hx]; rfl, by simpa using hm, fun s' m' t' hx' hm' => ?_⟩
    cases s' with
    | nil => exact absurd hm' (matchAt_none h₀ hx')
    | cons y ys =>
      cases hx'
      exact Nat.succ_le_succ (hleft ys m' t' rfl (by simpa using hm'))

theorem findFrom_complete {r : Rx} {s l m t : List Tok} (h : Matches r (s.reverse ++ l) m t) :
    (findFrom r l (s ++ (m ++ t))).isSome := by
  generalize hxs : s ++ (m ++ t) = xs
  fun_induction findFrom r l xs generalizing s with
  | case1 | case3 | case4 => rfl
  | case2 l h₀ =>
    obtain ⟨rfl, hmt⟩ := List.append_eq_nil_iff.1 hxs
    exact absurd h (matchAt_none h₀ hmt.symm)
  | case5 l x xs h₀ hf ih =>
    cases s with
    | nil => exact absurd h (matchAt_none h₀ hxs.symm)
    | cons y ys =>
      cases hxs
      have := ih (by simpa using h) rfl
      rw [hf] at this
      cases this

theorem findFrom_none {r : Rx} {l xs : List Tok} (h : findFrom r l xs = none) (s m t : List Tok)
    (hx : xs = s ++ (m ++ t)) : ¬ Matches r (s.reverse ++ l) m t := by
  intro hm
  have := findFrom_complete hm
  rw [← hx, h] at this
  simp at this

/-- Go's leftmost-first priority: at the leftmost position `find` reports the match `run` prefers. -/
theorem findFrom_priority {r : Rx} : ∀ {xs l s m t : List Tok}, findFrom r l xs = some (s, m, t) →
    matchAt r (s.reverse ++ l) (m ++ t) = some (m, t) := by
  intro xs l s m t h
  fun_induction findFrom r l xs generalizing s m t with
  | case1 l m₀ t₀ h₀ | case3 l x xs m₀ t₀ h₀ =>
    cases h
    rw [← (matchAt_sound h₀).1]
    exact h₀
  | case2 | case5 => cases h
  | case4 l x xs h₀ s₀ m₀ t₀ hf ih =>
    cases h
    simpa using ih hf

/-! ## The replacement loop -/

def tokensOf : List Piece → List Tok
  | [] => []
  | .keep t :: ps => t ++ tokensOf ps
  | .hit m :: ps => m ++ tokensOf ps

def hits : List Piece → List (List Tok)
  | [] => []
  | .keep _ :: ps => hits ps
  | .hit m :: ps => m :: hits ps

@[simp] theorem tokensOf_append (a b : List Piece) : tokensOf (a ++ b) = tokensOf a ++ tokensOf b := by
  induction a with
  | nil => rfl
  | cons p ps ih => cases p <;> simp [tokensOf, ih]

@[simp] theorem hits_append (a b : List Piece) : hits (a ++ b) = hits a ++ hits b := by
  induction a with
  | nil => rfl
  | cons p ps ih => cases p <;> simp [hits, ih]

/-- The invariant of the loop (`l` = the text before `xs`, reversed). -/
def PiecesOK (r : Rx) (l xs : List Tok) (ps : List Piece) : Prop :=
  tokensOf ps = xs ∧ ∀ m ∈ hits ps, ∃ pre post, xs = pre ++ (m ++ post) ∧ Matches r (pre.reverse ++ l) m post

theorem PiecesOK.keep {r : Rx} {l xs : List Tok} : PiecesOK r l xs [.keep xs] :=
  ⟨by simp [tokensOf], by simp [hits]⟩

theorem PiecesOK.append {r : Rx} {l a xs : List Tok} {p q : List Piece} (hp : tokensOf p = a)
    (hh : ∀ m ∈ hits p, ∃ pre post, a ++ xs = pre ++ (m ++ post) ∧ Matches r (pre.reverse ++ l) m post)
    (hq : PiecesOK r (a.reverse ++ l) xs q) : PiecesOK r l (a ++ xs) (p ++ q) := by
  refine ⟨by simp [hp, hq.1], fun m hm => ?_⟩
  rcases List.mem_append.1 (hits_append p q ▸ hm) with h | h
  · exact hh m h
  · obtain ⟨pre, post, hx, hmm⟩ := hq.2 m h
    exact ⟨a ++ pre, post, by simp [hx], by simpa using hmm⟩

theorem replPieces_ok (r : Rx) (n : Nat) (l : List Tok) (am : Bool) (xs : List Tok) :
    PiecesOK r l xs (replPieces r n l am xs) := by
  induction n generalizing l am xs with
  | zero => exact .keep
  | succ n ih =>
    simp only [replPieces]
    split
    · exact .keep
    · rename_i s m t hf
      obtain ⟨rfl, hm, _⟩ := findFrom_sound hf
      -- the found match and what stands before it, then the pieces of the rest
      have head : ∀ (b : Bool) (_ : b = true → m = []) {q : List Piece},
          PiecesOK r ((s ++ m).reverse ++ l) t q →
          PiecesOK r l (s ++ (m ++ t)) ((if b then [Piece.keep s] else [.keep s, .hit m]) ++ q) := by
        intro b hb q hq
        rw [← List.append_assoc]
        refine .append ?_ ?_ hq
        · cases b
          · simp [tokensOf]
          · simp [tokensOf, hb rfl]
        · intro m' hm'
          cases b
          · obtain rfl : m' = m := by simpa [hits] using hm'
            exact ⟨s, t, by simp, hm⟩
          · simp [hits] at hm'
      by_cases hhere : (m.isEmpty && s.isEmpty) = true
      · -- an empty match right here: one token is copied and the search goes on behind it
        have hm0 : m = [] := by simp at hhere; exact hhere.1
        simp only [hhere, Bool.true_and, if_true]
        cases t with
        | nil => simpa using head am (fun _ => hm0) (q := []) ⟨rfl, by simp [hits]⟩
        | cons y ys =>
          refine head am (fun _ => hm0) ?_
          have := PiecesOK.append (l := (s ++ m).reverse ++ l) (a := [y]) (p := [.keep [y]]) rfl
            (by simp [hits]) (ih _ false ys)
          simpa using this
      · simp only [hhere, Bool.false_and, if_false, Bool.false_eq_true]
        exact head false (by simp) (by simpa using ih _ true t)

theorem tokensOf_replPieces (r : Rx) (n : Nat) (l : List Tok) (am : Bool) (xs : List Tok) :
    tokensOf (replPieces r n l am xs) = xs :=
  (replPieces_ok r n l am xs).1

theorem hits_replPieces (r : Rx) (n : Nat) (l : List Tok) (am : Bool) (xs m : List Tok) :
    m ∈ hits (replPieces r n l am xs) →
    ∃ pre post, xs = pre ++ (m ++ post) ∧ Matches r (pre.reverse ++ l) m post :=
  (replPieces_ok r n l am xs).2 m

/-- `am = false`: at the start of the loop no match precedes, so even an empty first match is replaced. -/
theorem first_hit_replPieces (r : Rx) (n : Nat) (l xs s m t : List Tok)
    (hf : findFrom r l xs = some (s, m, t)) : m ∈ hits (replPieces r (n + 1) l false xs) := by
  simp only [replPieces, hf, Bool.and_false, if_false, Bool.false_eq_true]
  split
  · cases t <;> simp [hits]
  · simp [hits]

theorem replaceAllFunc_eq (r : Rx) (b : List UInt8) (f : List UInt8 → List UInt8) :
    ∃ ps, replaceAllFunc r b f = render f ps ∧ PiecesOK r [] (decode b) ps ∧
      ∀ s m t, find r (decode b) = some (s, m, t) → m ∈ hits ps :=
  ⟨_, rfl, replPieces_ok .., first_hit_replPieces r _ [] _⟩

theorem weightB_append (w : UInt8 → Nat) (a b : List UInt8) :
    weightB w (a ++ b) = weightB w a + weightB w b := by
  induction a with
  | nil => simp [weightB]
  | cons x xs ih => simp [weightB, ih]; omega

theorem bytesOf_append (a b : List Tok) : bytesOf (a ++ b) = bytesOf a ++ bytesOf b := by
  simp [bytesOf]

theorem weightT_append (w : UInt8 → Nat) (a b : List Tok) :
    weightT w (a ++ b) = weightT w a + weightT w b := by
  simp [weightT, bytesOf_append, weightB_append]

theorem render_weight (w : UInt8 → Nat) (f : List UInt8 → List UInt8) : ∀ (ps : List Piece),
    (∀ m ∈ hits ps, weightB w (f (bytesOf m)) ≤ weightT w m) →
    weightB w (render f ps) ≤ weightT w (tokensOf ps) ∧
    ((∃ m ∈ hits ps, weightB w (f (bytesOf m)) < weightT w m) →
      weightB w (render f ps) < weightT w (tokensOf ps)) := by
  intro ps h
  induction ps with
  | nil => exact ⟨Nat.le_refl _, fun ⟨m, hm, _⟩ => by cases hm⟩
  | cons p ps ih =>
    cases p with
    | keep t =>
      obtain ⟨hle, hlt⟩ := ih h
      simp only [render, tokensOf, weightB_append, weightT_append]
      simp only [weightT] at hle hlt ⊢
      exact ⟨by omega, fun hex => by have := hlt hex; omega⟩
    | hit m0 =>
      obtain ⟨hle, hlt⟩ := ih fun m hm => h m (.tail _ hm)
      have h0 := h m0 (.head _)
      simp only [render, tokensOf, weightB_append, weightT_append]
      refine ⟨by omega, fun ⟨m1, hm1, hlt1⟩ => ?_⟩
      rcases List.mem_cons.1 hm1 with rfl | hm1
      · omega
      · have := hlt ⟨m1, hm1, hlt1⟩; omega

theorem render_weight_lt (w : UInt8 → Nat) (f : List UInt8 → List UInt8) (ps : List Piece)
    (h : ∀ m ∈ hits ps, weightB w (f (bytesOf m)) ≤ weightT w m)
    (hlt : ∃ m ∈ hits ps, weightB w (f (bytesOf m)) < weightT w m) :
    weightB w (render f ps) < weightT w (tokensOf ps) :=
  (render_weight w f ps h).2 hlt

/-! ## Structural analyses -/

/-- What `decode` guarantees of a token (`decode_wf`). -/
def WFTok (x : Tok) : Prop := x.r < 128 → x.bs = [UInt8.ofNat x.r]

theorem clsLB_sound (w : UInt8 → Nat) (x : Tok) (hx : WFTok x) : ∀ (rs : List (Nat × Nat)),
    clsMem rs x.r = true → clsLB w rs ≤ weightB w x.bs := by
  intro rs
  induction rs with
  | nil => intro h; simp at h
  | cons p rest ih =>
    intro h
    obtain ⟨lo, hi⟩ := p
    -- a single-rune ASCII range contains only that rune, which stands for its own byte
    have single : lo ≤ x.r ∧ x.r ≤ hi →
        (if lo = hi ∧ lo < 128 then w (UInt8.ofNat lo) else 0) ≤ weightB w x.bs := by
      intro hm
      split
      · rename_i hc
        obtain ⟨rfl, hlt⟩ := hc
        have : x.r = lo := by omega
        rw [hx (by omega), this]
        simp [weightB]
      · exact Nat.zero_le _
    rw [clsMem_cons] at h
    cases rest with
    | nil => simpa [clsLB] using single (by simpa using h)
    | cons q rest' =>
      rcases h with h | h
      · exact Nat.le_trans (Nat.min_le_left _ _) (single h)
      · exact Nat.le_trans (Nat.min_le_right _ _) (ih h)

theorem minWeight_sound (w : UInt8 → Nat) {r : Rx} {l m t : List Tok} (h : Matches r l m t) :
    (∀ x ∈ m, WFTok x) → minWeight w r ≤ weightT w m := by
  intro hwf
  induction h with
  | cls rs l x t hm =>
    have := clsLB_sound w x (hwf x (.head _)) rs hm
    simpa [minWeight, weightT, bytesOf] using this
  | cat _ _ iha ihb =>
    have := iha fun x hx => hwf x (List.mem_append_left _ hx)
    have := ihb fun x hx => hwf x (List.mem_append_right _ hx)
    simp only [minWeight, weightT_append]
    omega
  | altL _ ih => exact Nat.le_trans (Nat.min_le_left _ _) (ih hwf)
  | altR _ ih => exact Nat.le_trans (Nat.min_le_right _ _) (ih hwf)
  | cap _ ih => exact ih hwf
  | _ => exact Nat.zero_le _

theorem anchorFree_frame {r : Rx} {l m t : List Tok} (h : Matches r l m t) :
    anchorFree r = true → ∀ (l' t' : List Tok), Matches r l' m t' := by
  intro ha l' t'
  induction h generalizing l' t' with
  | eps => exact .eps l' t'
  | cls rs l x t hm => exact .cls rs l' x t' hm
  | cat _ _ iha ihb =>
    have ha := Bool.and_eq_true_iff.1 ha
    exact .cat (iha ha.1 _ _) (ihb ha.2 _ _)
  | altL _ ih => exact .altL (ih (Bool.and_eq_true_iff.1 ha).1 _ _)
  | altR _ ih => exact .altR (ih (Bool.and_eq_true_iff.1 ha).2 _ _)
  | starNil a l t => exact .starNil a l' t'
  | starCons _ _ iha ihs => exact .starCons (iha ha _ _) (ihs ha _ _)
  | cap _ ih => exact .cap (ih ha _ _)
  | _ => cases ha

theorem avoids_sound {c : Nat} {r : Rx} {l m t : List Tok} (h : Matches r l m t) :
    avoids c r = true → ∀ x ∈ m, x.r ≠ c := by
  intro ha x hx
  induction h with
  | cls rs l y t hm =>
    obtain rfl := List.mem_singleton.1 hx
    intro he
    simp [avoids, ← he, hm] at ha
  | cat _ _ iha ihb =>
    have ha := Bool.and_eq_true_iff.1 ha
    rcases List.mem_append.1 hx with h | h
    · exact iha ha.1 h
    · exact ihb ha.2 h
  | altL _ ih => exact ih (Bool.and_eq_true_iff.1 ha).1 hx
  | altR _ ih => exact ih (Bool.and_eq_true_iff.1 ha).2 hx
  | starCons _ _ iha ihs =>
    rcases List.mem_append.1 hx with h | h
    · exact iha ha h
    · exact ihs ha h
  | cap _ ih => exact ih ha hx
  | _ => cases hx

theorem matches_eraseCaps_iff (r : Rx) (l m t : List Tok) :
    Matches (eraseCaps r) l m t ↔ Matches r l m t := by
  induction r generalizing l m t with
  | cat a b iha ihb => simp only [eraseCaps, matches_cat_iff, iha, ihb]
  | alt a b iha ihb => simp only [eraseCaps, matches_alt_iff, iha, ihb]
  | star a iha =>
    exact ⟨matches_star_mono fun l m t => (iha l m t).1, matches_star_mono fun l m t => (iha l m t).2⟩
  | cap i a iha => exact (iha l m t).trans matches_cap_iff.symm
  | _ => exact Iff.rfl

/-- `Matches` for a concatenation given as the list of its factors (the target of `matches_iff_factors`). -/
def MatchesL : List Rx → List Tok → List Tok → List Tok → Prop
  | [], _, m, _ => m = []
  | f :: fs, l, m, t => ∃ m₁ m₂, m = m₁ ++ m₂ ∧ Matches f l m₁ (m₂ ++ t) ∧ MatchesL fs (m₁.reverse ++ l) m₂ t

theorem matchesL_append {fs gs : List Rx} {l m t : List Tok} : MatchesL (fs ++ gs) l m t ↔
    ∃ m₁ m₂, m = m₁ ++ m₂ ∧ MatchesL fs l m₁ (m₂ ++ t) ∧ MatchesL gs (m₁.reverse ++ l) m₂ t := by
  induction fs generalizing l m with
  | nil => exact ⟨fun h => ⟨[], m, rfl, rfl, h⟩, fun ⟨_, _, e, e', h⟩ => by subst e'; exact e ▸ h⟩
  | cons f fs ih =>
    simp only [List.cons_append, MatchesL, ih]
    constructor
    · rintro ⟨a, _, rfl, hf, b, c, rfl, hb, hc⟩
      exact ⟨a ++ b, c, by simp, ⟨a, b, rfl, by simpa using hf, hb⟩, by simpa using hc⟩
    · rintro ⟨_, c, rfl, ⟨a, b, rfl, hf, hb⟩, hc⟩
      exact ⟨a, b ++ c, by simp, by simpa using hf, b, c, rfl, hb, by simpa using hc⟩

theorem matchesL_singleton {f : Rx} {l m t : List Tok} : MatchesL [f] l m t ↔ Matches f l m t := by
  simp [MatchesL]

theorem matches_iff_factors (r : Rx) (l m t : List Tok) : Matches r l m t ↔ MatchesL (factors r) l m t := by
  have single : ∀ (r' : Rx) (l m t : List Tok), Matches r' l m t ↔ MatchesL [eraseCaps r'] l m t :=
    fun r' l m t => by rw [matchesL_singleton, matches_eraseCaps_iff]
  induction r generalizing l m t with
  | eps => exact ⟨fun h => by cases h; rfl, fun h => by cases h; exact .eps l t⟩
  | cat a b iha ihb => simp only [factors, matchesL_append, matches_cat_iff, iha, ihb]
  | cap i a iha => exact matches_cap_iff.trans (iha l m t)
  | _ => exact single _ l m t

/-- `hf`: `full` is `fL · addr · fR` up to captures and bracketing. -/
theorem matches_sandwich {full addr fL fR : Rx} (hf : factors full = fL :: (factors addr ++ [fR]))
    (l m t : List Tok) :
    Matches full l m t ↔ ∃ dL a dR, m = dL ++ (a ++ dR) ∧ Matches fL l dL (a ++ (dR ++ t)) ∧
      Matches addr (dL.reverse ++ l) a (dR ++ t) ∧ Matches fR (a.reverse ++ (dL.reverse ++ l)) dR t := by
  rw [matches_iff_factors, hf, ← List.singleton_append]
  simp only [matchesL_append, matchesL_singleton, ← matches_iff_factors addr]
  constructor
  · rintro ⟨dL, _, rfl, hL, a, dR, rfl, ha, hR⟩
    exact ⟨dL, a, dR, rfl, by simpa using hL, ha, hR⟩
  · rintro ⟨dL, a, dR, rfl, hL, ha, hR⟩
    exact ⟨dL, _, rfl, by simpa using hL, a, dR, rfl, ha, hR⟩

/-! ## UTF-8 text -/

theorem inR_iff {lo hi x : Nat} : inR lo hi x = true ↔ lo ≤ x ∧ x ≤ hi := by simp [inR]

/-- One byte, or a rune of width 2..4 whose continuation bytes are there, are ≥ 0x80 and alone determine the
result (what follows them is not looked at). -/
theorem decodeRune4_spec (c0 : UInt8) (p1 p2 p3 : Option UInt8) :
    decodeRune4 c0 p1 p2 p3 = (if c0.toNat < 128 then c0.toNat else 0xFFFD, 1) ∨
    ∃ v w, decodeRune4 c0 p1 p2 p3 = (v, w) ∧ 128 ≤ v ∧ 2 ≤ w ∧ w ≤ 4 ∧
      (∃ c, p1 = some c ∧ 128 ≤ c.toNat) ∧ (3 ≤ w → ∃ c, p2 = some c ∧ 128 ≤ c.toNat) ∧
      (4 ≤ w → ∃ c, p3 = some c ∧ 128 ≤ c.toNat) ∧
      ∀ q2 q3, (3 ≤ w → q2 = p2) → (4 ≤ w → q3 = p3) → decodeRune4 c0 p1 q2 q3 = (v, w) := by
  unfold decodeRune4
  by_cases h1 : c0.toNat < 0x80
  · exact .inl (by simp [h1])
  by_cases h2 : c0.toNat < 0xC2
  · exact .inl (by simp [h1, h2])
  by_cases h3 : c0.toNat < 0xE0
  · match p1 with
    | none => exact .inl (by simp [h1, h2, h3])
    | some c1 =>
      by_cases k : inR 0x80 0xBF c1.toNat = true
      · simp only [h1, h2, h3, k, if_true, if_false]
        rw [inR_iff] at k
        exact .inr ⟨_, _, rfl, by omega, by omega, by omega, ⟨c1, rfl, k.1⟩, by omega, by omega,
          fun _ _ _ _ => rfl⟩
      · exact .inl (by simp [h1, h2, h3, k])
  by_cases h4 : c0.toNat < 0xF0
  · match p1, p2 with
    | some c1, some c2 =>
      by_cases k : (inR (if c0.toNat = 0xE0 then 0xA0 else 0x80) (if c0.toNat = 0xED then 0x9F else 0xBF) c1.toNat
          && inR 0x80 0xBF c2.toNat) = true
      · simp only [h1, h2, h3, h4, k, if_true, if_false]
        have k' := k
        simp only [Bool.and_eq_true, inR_iff] at k'
        obtain ⟨⟨l1, u1⟩, l2, u2⟩ := k'
        -- the bounds for `c1` depend on `c0` (E0 excludes overlong forms, ED surrogates)
        have hv : 128 ≤ c0.toNat % 16 * 4096 + c1.toNat % 64 * 64 + c2.toNat % 64 ∧ 128 ≤ c1.toNat := by
          split at l1 <;> split at u1 <;> omega
        refine .inr ⟨_, _, rfl, hv.1, by omega, by omega, ⟨c1, rfl, hv.2⟩, fun _ => ⟨c2, rfl, l2⟩, by omega, ?_⟩
        intro q2 q3 e2 _
        simp only [e2 (Nat.le_refl _), k, if_true]
      · exact .inl (by simp [h1, h2, h3, h4, k])
    | none, _ | some _, none => exact .inl (by simp [h1, h2, h3, h4])
  by_cases h5 : c0.toNat < 0xF5
  · match p1, p2, p3 with
    | some c1, some c2, some c3 =>
      by_cases k : (inR (if c0.toNat = 0xF0 then 0x90 else 0x80) (if c0.toNat = 0xF4 then 0x8F else 0xBF) c1.toNat
          && inR 0x80 0xBF c2.toNat && inR 0x80 0xBF c3.toNat) = true
      · simp only [h1, h2, h3, h4, h5, k, if_true, if_false]
        have k' := k
        simp only [Bool.and_eq_true, inR_iff] at k'
        obtain ⟨⟨⟨l1, u1⟩, l2, u2⟩, l3, u3⟩ := k'
        have hv : 128 ≤ c0.toNat % 8 * 262144 + c1.toNat % 64 * 4096 + c2.toNat % 64 * 64 + c3.toNat % 64 ∧
            128 ≤ c1.toNat := by
          split at l1 <;> split at u1 <;> omega
        refine .inr ⟨_, _, rfl, hv.1, by omega, by omega, ⟨c1, rfl, hv.2⟩, fun _ => ⟨c2, rfl, l2⟩,
          fun _ => ⟨c3, rfl, l3⟩, ?_⟩
        intro q2 q3 e2 e3
        simp only [e2 (by omega), e3 (Nat.le_refl _), k, if_true]
      · exact .inl (by simp [h1, h2, h3, h4, h5, k])
    | none, _, _ | some _, none, _ | some _, some _, none => exact .inl (by simp [h1, h2, h3, h4, h5])
  · exact .inl (by simp [h1, h2, h3, h4, h5])

theorem decodeRune4_ascii (c0 : UInt8) (o1 o2 o3 : Option UInt8)
    (h : (decodeRune4 c0 o1 o2 o3).1 < 128) : decodeRune4 c0 o1 o2 o3 = (c0.toNat, 1) := by
  rcases decodeRune4_spec c0 o1 o2 o3 with e | ⟨v, w, e, hv, _⟩
  · rw [e] at h ⊢
    by_cases hc : c0.toNat < 128
    · rw [if_pos hc]
    · rw [if_neg hc] at h; exact absurd h (by decide)
  · rw [e] at h; exact absurd h (Nat.not_lt.2 hv)

theorem nth_eq : ∀ (bs : List UInt8) (i : Nat), nth bs i = bs[i]?
  | [], _ | _ :: _, 0 => rfl
  | _ :: bs, i + 1 => nth_eq bs i

theorem decodeRune_cont (bs : List UInt8) (i : Nat) (h1 : 1 ≤ i) (h2 : i < (decodeRune bs).2) :
    ∃ c, bs[i]? = some c ∧ 128 ≤ c.toNat := by
  cases bs with
  | nil => simp [decodeRune] at h2
  | cons c0 rest =>
    simp only [decodeRune, nth_eq] at h2
    rcases decodeRune4_spec c0 rest[0]? rest[1]? rest[2]? with e | ⟨v, w, e, _, _, h4, c1, c2, c3, _⟩
    · rw [e] at h2; omega
    · rw [e] at h2
      obtain rfl | rfl | rfl : i = 1 ∨ i = 2 ∨ i = 3 := by omega
      · exact c1
      · exact c2 h2
      · exact c3 h2

theorem decodeRune_width_le (bs : List UInt8) : (decodeRune bs).2 ≤ bs.length := by
  cases bs with
  | nil => simp [decodeRune]
  | cons c0 rest =>
    refine Nat.le_of_not_lt fun h => ?_
    obtain ⟨c, hc, _⟩ := decodeRune_cont (c0 :: rest) (rest.length + 1) (by omega) h
    simp at hc

theorem decodeRune_width_pos (b : UInt8) (bs : List UInt8) : 1 ≤ (decodeRune (b :: bs)).2 := by
  rcases decodeRune4_spec b (nth bs 0) (nth bs 1) (nth bs 2) with e | ⟨v, w, e, _, h2, _⟩
  · simp [decodeRune, e]
  · simp only [decodeRune, e]; omega

/-- `DecodeRune` looks at no byte beyond the rune it returns: what follows a prefix holding that rune may be cut
off.  In particular a sequence that is invalid stays invalid when it is cut short. -/
theorem decodeRune_append (a r : List UInt8) (ha : a ≠ []) (h : (decodeRune (a ++ r)).2 ≤ a.length) :
    decodeRune (a ++ r) = decodeRune a := by
  cases a with
  | nil => exact absurd rfl ha
  | cons c0 a =>
    simp only [List.cons_append, decodeRune, nth_eq, List.length_cons] at h ⊢
    have inside : ∀ i, i < a.length → a[i]? = (a ++ r)[i]? := fun i hi => (List.getElem?_append_left hi).symm
    have present : ∀ i c, a[i]? = some c → (a ++ r)[i]? = a[i]? :=
      fun i c hc => List.getElem?_append_left (List.getElem?_eq_some_iff.1 hc).1
    rcases decodeRune4_spec c0 (a ++ r)[0]? (a ++ r)[1]? (a ++ r)[2]? with e | ⟨v, w, e, _, h2, _, _, _, _, ag⟩
    · -- one byte: if the prefix alone made a longer rune, so would the whole
      rcases decodeRune4_spec c0 a[0]? a[1]? a[2]? with e' | ⟨v', w', e', _, _, _, ⟨c, h1', _⟩, h3', h4', ag'⟩
      · rw [e, e']
      · rw [e', ← ag' _ _ (fun h => (h3' h).elim fun c hc => present 1 c hc.1)
          (fun h => (h4' h).elim fun c hc => present 2 c hc.1), present 0 c h1']
    · -- several bytes: all of them lie inside the prefix
      rw [e] at h
      rw [e, inside 0 (by omega)]
      exact (ag _ _ (fun _ => inside 1 (by omega)) (fun _ => inside 2 (by omega))).symm

theorem decodeF_fuel (n m : Nat) (bs : List UInt8) (hn : bs.length ≤ n) (hm : bs.length ≤ m) :
    decodeF n bs = decodeF m bs := by
  fun_induction decodeF n bs generalizing m with
  | case1 bs =>
    obtain rfl := List.eq_nil_of_length_eq_zero (Nat.le_zero.1 hn)
    cases m <;> rfl
  | case2 n => cases m <;> rfl
  | case3 n b bs d ih =>
    cases m with
    | zero => cases hm
    | succ m =>
      congr 1
      exact ih m (by simp at hn ⊢; omega) (by simp at hm ⊢; omega)

theorem decode_nil : decode [] = [] := by simp [decode, decodeF]

theorem decode_cons (b : UInt8) (bs : List UInt8) :
    decode (b :: bs) = ⟨(decodeRune (b :: bs)).1, b :: bs.take ((decodeRune (b :: bs)).2 - 1)⟩ ::
      decode (bs.drop ((decodeRune (b :: bs)).2 - 1)) := by
  simp only [decode, List.length_cons, decodeF]
  congr 1
  apply decodeF_fuel <;> simp

theorem decode_induction {P : List UInt8 → Prop} (hnil : P [])
    (hcons : ∀ b bs, P (bs.drop ((decodeRune (b :: bs)).2 - 1)) → P (b :: bs)) (bs : List UInt8) : P bs := by
  induction hn : bs.length using Nat.strongRecOn generalizing bs with
  | _ n ih =>
    cases bs with
    | nil => exact hnil
    | cons b bs => exact hcons b bs (ih _ (by simp [← hn]; omega) _ rfl)

theorem bytesOf_decode (bs : List UInt8) : bytesOf (decode bs) = bs := by
  induction bs using decode_induction with
  | hnil => simp [decode_nil, bytesOf]
  | hcons b bs ih =>
    rw [decode_cons]
    simp only [bytesOf, List.flatMap_cons] at ih ⊢
    rw [ih]
    simp

theorem decode_wf (bs : List UInt8) : ∀ x ∈ decode bs, WFTok x := by
  induction bs using decode_induction with
  | hnil => simp [decode_nil]
  | hcons b bs ih =>
    rw [decode_cons]
    intro x hx
    simp only [List.mem_cons] at hx
    rcases hx with rfl | hx
    · intro hlt
      have := decodeRune4_ascii b (nth bs 0) (nth bs 1) (nth bs 2) (by simpa [decodeRune] using hlt)
      simp [decodeRune, this]
    · exact ih x hx

theorem decode_suffix {pre : List Tok} {bs : List UInt8} {rest : List Tok} (h : decode bs = pre ++ rest) :
    decode (bytesOf rest) = rest := by
  induction pre generalizing bs with
  | nil => rw [← List.nil_append rest, ← h, bytesOf_decode]
  | cons p pre ih =>
    cases bs with
    | nil => cases h
    | cons b bs =>
      rw [decode_cons] at h
      exact ih (List.cons.inj h).2

theorem decode_prefix {seg : List Tok} {bs : List UInt8} {post : List Tok} (h : decode bs = seg ++ post) :
    decode (bytesOf seg) = seg := by
  induction seg generalizing bs with
  | nil => rfl
  | cons x seg ih =>
    cases bs with
    | nil => cases h
    | cons b bs =>
      have hb : b :: bs = bytesOf (x :: seg) ++ bytesOf post := by
        rw [← bytesOf_append, ← h, bytesOf_decode]
      rw [decode_cons] at h
      simp only [List.cons_append, List.cons.injEq] at h
      obtain ⟨hx, hrest⟩ := h
      have hw := decodeRune_width_le (b :: bs)
      have hw1 := decodeRune_width_pos b bs
      -- the bytes of the segment are a prefix of the input that contains the first rune entirely
      have hseg : bytesOf (x :: seg) = b :: (bs.take ((decodeRune (b :: bs)).2 - 1) ++ bytesOf seg) := by
        simp [bytesOf, ← hx]
      have hdr : decodeRune (b :: bs) = decodeRune (bytesOf (x :: seg)) := by
        rw [hb]
        apply decodeRune_append _ _ (by simp [hseg])
        rw [← hb, hseg]
        simp at hw ⊢; omega
      rw [hseg] at hdr ⊢
      rw [decode_cons, ← hdr]
      have htl : (bs.take ((decodeRune (b :: bs)).2 - 1)).length = (decodeRune (b :: bs)).2 - 1 := by
        simp at hw ⊢; omega
      rw [List.take_left' htl, List.drop_left' htl, ih hrest, hx]

/-- `Scrub` hands the bytes of a match to the inner `ReplaceAll`: that call sees exactly the matched tokens. -/
theorem decode_segment (bs : List UInt8) (pre m post : List Tok) (h : decode bs = pre ++ (m ++ post)) :
    decode (bytesOf m) = m :=
  decode_prefix (decode_suffix h)

/-! ## A final newline -/

/-- the token `decode` makes of a line feed -/
def nlTok : Tok := ⟨10, [10]⟩

theorem decode_snoc_nl (p : List UInt8) : decode (p ++ [10]) = decode p ++ [nlTok] := by
  induction p using decode_induction with
  | hnil => decide
  | hcons b bs ih =>
    -- the rune at the front does not reach the final line feed, which is no continuation byte
    have hle : (decodeRune (b :: bs ++ [10])).2 ≤ (b :: bs).length := by
      refine Nat.le_of_not_lt fun h => ?_
      obtain ⟨c, hc, h128⟩ := decodeRune_cont (b :: bs ++ [10]) (bs.length + 1) (by omega) h
      rw [List.getElem?_append_right (by simp)] at hc
      simp at hc
      subst hc
      simp at h128
    have heq := decodeRune_append (b :: bs) [10] (by simp) hle
    rw [List.cons_append, decode_cons, decode_cons b bs, ← List.cons_append, heq]
    have hw1 : (decodeRune (b :: bs)).2 - 1 ≤ bs.length := by
      have := decodeRune_width_le (b :: bs); simp at this; omega
    rw [List.take_append_of_le_length hw1, List.drop_append_of_le_length hw1]
    simp [ih]

theorem getLast?_decode_nl {b : List UInt8} (h : b.getLast? = some 10) : (decode b).getLast? = some nlTok := by
  obtain ⟨p, rfl⟩ := List.getLast?_eq_some_iff.1 h
  simp [decode_snoc_nl]

/-- What a rendered piece `b` must keep of its text `t` for a final line feed of the whole to survive: the line
feed itself, and emptiness — an empty last piece must not hide the line feed of the piece before it. -/
def KeepsEnd (t : List Tok) (b : List UInt8) : Prop :=
  (t = [] → b = []) ∧ (t.getLast? = some nlTok → b.getLast? = some 10)

theorem KeepsEnd.append {t₁ t₂ : List Tok} {b₁ b₂ : List UInt8} (h₁ : KeepsEnd t₁ b₁) (h₂ : KeepsEnd t₂ b₂) :
    KeepsEnd (t₁ ++ t₂) (b₁ ++ b₂) := by
  refine ⟨fun e => ?_, fun e => ?_⟩
  · rw [List.append_eq_nil_iff] at e
    rw [h₁.1 e.1, h₂.1 e.2]; rfl
  · rw [List.getLast?_append] at e ⊢
    cases h : t₂.getLast? with
    | none => rw [h₂.1 (List.getLast?_eq_none_iff.1 h)]; rw [h] at e; exact h₁.2 e
    | some x => rw [h] at e; cases e; rw [h₂.2 h]; rfl

theorem keepsEnd_bytesOf (t : List Tok) : KeepsEnd t (bytesOf t) := by
  refine ⟨fun e => by rw [e]; rfl, fun h => ?_⟩
  obtain ⟨ys, rfl⟩ := List.getLast?_eq_some_iff.1 h
  simp [bytesOf, nlTok]

theorem render_keepsEnd (f : List UInt8 → List UInt8) : ∀ (ps : List Piece),
    (∀ m ∈ hits ps, KeepsEnd m (f (bytesOf m))) → KeepsEnd (tokensOf ps) (render f ps)
  | [], _ => ⟨fun _ => rfl, fun h => by cases h⟩
  | .keep t :: ps, h => (keepsEnd_bytesOf t).append (render_keepsEnd f ps h)
  | .hit m :: ps, h => (h m (.head _)).append (render_keepsEnd f ps fun m' hm' => h m' (.tail _ hm'))

theorem render_ends_nl (f : List UInt8 → List UInt8) : ∀ (ps : List Piece),
    (∃ ys, tokensOf ps = ys ++ [nlTok]) →
    (∀ m ∈ hits ps, (∃ ys, m = ys ++ [nlTok]) → ∃ q, f (bytesOf m) = q ++ [10]) →
    (∀ m ∈ hits ps, m = [] → f (bytesOf m) = []) →
    ∃ q, render f ps = q ++ [10] := by
  simp only [← List.getLast?_eq_some_iff]
  exact fun ps h1 h2 h3 => (render_keepsEnd f ps fun m hm => ⟨h3 m hm, h2 m hm⟩).2 h1

end Snowflake.Rx
