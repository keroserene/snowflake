import Snowflake.Base.Base64
import Snowflake.Base.Radix
/-! The base64 model (`Base/Base64.lean`): `Decode ∘ Encode = id`; the streaming encoder writes what
`Encode` writes; the streaming decoder, through what its refill loop keeps (`Dec.Frame`): no clean end on
a failing source or past a bad byte, the data on a clean padded encoding. -/
namespace Snowflake.Base64

/-- What the proofs need of an alphabet (checked by evaluation for the two alphabets of Go). -/
structure Enc.Good (e : Enc) : Prop where
  rt : ∀ i : Fin 64, e.val (e.sym i.val) = some i.val
  padNone : e.val padChar = none
  symNotPad : ∀ i : Fin 64, e.sym i.val ≠ padChar

theorem std_good : std.Good := ⟨by decide +kernel, by decide +kernel, by decide +kernel⟩
theorem url_good : url.Good := ⟨by decide +kernel, by decide +kernel, by decide +kernel⟩

theorem Enc.Good.setPad {a : List UInt8} {p : Bool} (g : Enc.Good ⟨a, p⟩) (q : Bool) : Enc.Good ⟨a, q⟩ :=
  ⟨g.rt, g.padNone, g.symNotPad⟩

theorem rawStd_good : rawStd.Good := std_good.setPad false
theorem rawUrl_good : rawUrl.Good := url_good.setPad false


theorem ofNat_toNat (a : UInt8) : UInt8.ofNat a.toNat = a := by simp
theorem isNL_pad : isNL padChar = false := by decide

/-! ### Round trip -/

theorem sextets_sum (v : Nat) (hv : v < 16777216) :
    v / 262144 % 64 * 262144 + v / 4096 % 64 * 4096 + v / 64 % 64 * 64 + v % 64 = v := by
  rw [Nat.mod_eq_of_lt (Nat.div_lt_of_lt_mul hv : v / 262144 < 64)]
  exact radix4 64 v

/-- The first `k` sextets of a 24-bit value whose remaining sextets are zero decode to its first
`k - 1` bytes. -/
theorem outBytes_sextets (v k : Nat) (hv : v < 16777216) (hk : 2 ≤ k ∧ k ≤ 4) (h0 : v % 64 ^ (4 - k) = 0) :
    outBytes ([v / 262144 % 64, v / 4096 % 64, v / 64 % 64, v % 64].take k)
      = [UInt8.ofNat (v / 65536), UInt8.ofNat (v / 256 % 256), UInt8.ofNat (v % 256)].take (k - 1) := by
  obtain rfl | rfl | rfl : k = 2 ∨ k = 3 ∨ k = 4 := by omega
  · have z2 : v / 64 % 64 = 0 := by omega
    have z3 : v % 64 = 0 := by omega
    have e := sextets_sum v hv
    rw [z2, z3] at e
    simp [outBytes, e]
  · have e := sextets_sum v hv
    rw [show v % 64 = 0 from h0] at e
    simp [outBytes, e]
  · simp [outBytes, sextets_sum v hv]

theorem decodeGo_sym {e : Enc} (g : e.Good) (n : Nat) (acc : List Nat) (cs : Bytes) :
    decodeGo e acc (e.sym (n % 64) :: cs) =
      if acc.length = 3 then (outBytes (acc ++ [n % 64]) ++ (decodeGo e [] cs).1, (decodeGo e [] cs).2)
      else decodeGo e (acc ++ [n % 64]) cs := by
  simp only [decodeGo, g.rt ⟨n % 64, Nat.mod_lt n (by decide)⟩]

theorem decodeGo_end {e : Enc} (g : e.Good) (acc : List Nat) (k : Nat) (h : acc.length = 2 ∧ k = 2 ∨ acc.length = 3 ∧ k = 1) :
    decodeGo e acc (padding e k) = (outBytes acc, true) := by
  have hv : e.val 61 = none := g.padNone
  have hn : isNL 61 = false := isNL_pad
  cases hp : e.pad <;> obtain ⟨h, rfl⟩ | ⟨h, rfl⟩ := h <;>
    simp [padding, hp, h, decodeGo, padTail, hv, hn, padChar]

/-- With `c = 0` (and `b = 0`): the final group of two (one) bytes. -/
theorem outBytes_group (a b c : UInt8) (k : Nat) (hk : 2 ≤ k ∧ k ≤ 4)
    (h0 : (a.toNat * 65536 + b.toNat * 256 + c.toNat) % 64 ^ (4 - k) = 0) :
    outBytes ([(a.toNat * 65536 + b.toNat * 256 + c.toNat) / 262144 % 64,
               (a.toNat * 65536 + b.toNat * 256 + c.toNat) / 4096 % 64,
               (a.toNat * 65536 + b.toNat * 256 + c.toNat) / 64 % 64,
               (a.toNat * 65536 + b.toNat * 256 + c.toNat) % 64].take k) = [a, b, c].take (k - 1) := by
  have ha := a.toNat_lt; have hb := b.toNat_lt; have hc := c.toNat_lt
  rw [outBytes_sextets _ k (by omega) hk h0]
  have e1 : (a.toNat * 65536 + b.toNat * 256 + c.toNat) / 65536 = a.toNat := by omega
  have e2 : (a.toNat * 65536 + b.toNat * 256 + c.toNat) / 256 % 256 = b.toNat := by omega
  have e3 : (a.toNat * 65536 + b.toNat * 256 + c.toNat) % 256 = c.toNat := by omega
  simp [e1, e2, e3]

/-- **Round trip** (`Decode(Encode(b)) = b`, no error) for every byte string. -/
theorem decodeRaw_encode {e : Enc} (g : e.Good) (b : Bytes) : decodeRaw e (encode e b) = (b, true) := by
  unfold decodeRaw
  fun_induction encode e b with
  | case1 a b c r v ih =>
    have hq := outBytes_group a b c 4 (by omega) (Nat.mod_one _)
    simp [decodeGo_sym g, ih] at hq ⊢
    rw [hq]; rfl
  | case2 a b v =>
    have hq := outBytes_group a b 0 3 (by omega) (by simp; omega)
    simp [decodeGo_sym g, decodeGo_end g] at hq ⊢
    exact hq
  | case3 a v =>
    have hq := outBytes_group a 0 0 2 (by omega) (by simp; omega)
    simp [decodeGo_sym g, decodeGo_end g] at hq ⊢
    exact hq
  | case4 => rfl

theorem decode_encode {e : Enc} (g : e.Good) (b : Bytes) : decode e (encode e b) = some b := by
  simp [decode, decodeRaw_encode g b]

theorem encode_append3 (e : Enc) (x y : Bytes) (h : x.length % 3 = 0) : encode e (x ++ y) = encode e x ++ encode e y := by
  fun_induction encode e x with
  | case1 a b c r v ih => simp [encode, v, ih (by simp at h; omega)]
  | case2 | case3 => simp at h
  | case4 => rfl

theorem encode_length_pad (e : Enc) (hp : e.pad = true) (b : Bytes) : (encode e b).length = (b.length + 2) / 3 * 4 := by
  fun_induction encode e b with
  | case1 a b c r v ih => simp [ih]; omega
  | case2 | case3 => simp [padding, hp]
  | case4 => rfl

theorem encode_all (e : Enc) (p : UInt8 → Bool) (hs : ∀ i : Fin 64, p (e.sym i.val) = true) (hp : p padChar = true)
    (b : Bytes) : ∀ c ∈ encode e b, p c = true := by
  have hsym : ∀ n, p (e.sym (n % 64)) = true := fun n => hs ⟨n % 64, Nat.mod_lt _ (by decide)⟩
  have hpad : ∀ n, (padding e n).all p = true := by
    intro n; unfold padding; split <;> simp [hp]
  rw [← List.all_eq_true]
  fun_induction encode e b with
  | case1 a b c r v ih => simp only [List.all_cons, hsym, ih, Bool.and_self]
  | case2 | case3 => simp only [List.all_cons, hsym, hpad, Bool.and_self]
  | case4 => rfl

/-- **URL alphabet:** the URL-safe encodings write neither `/` nor `+`. -/
theorem urlAlpha_no_slash_plus (pad : Bool) (b : Bytes) : ∀ c ∈ encode ⟨urlAlpha, pad⟩ b, c ≠ 47 ∧ c ≠ 43 := by
  intro c hc
  have hs : ∀ i : Fin 64, (url.sym i.val != 47 && url.sym i.val != 43) = true := by decide +kernel
  have := encode_all ⟨urlAlpha, pad⟩ (fun c => c != 47 && c != 43) hs (by decide) b c hc
  simpa using this

theorem url_no_slash_plus (b : Bytes) : ∀ c ∈ encode url b, c ≠ 47 ∧ c ≠ 43 := urlAlpha_no_slash_plus true b

theorem rawUrl_no_slash_plus (b : Bytes) : ∀ c ∈ encode rawUrl b, c ≠ 47 ∧ c ≠ 43 := urlAlpha_no_slash_plus false b

/-! ### Streaming encoder

Each stage is described by what it leaves to be encoded: the writes so far followed by the encoding
of the pending bytes and any further input `rest` are the encoding of the whole input. -/

theorem interior_spec (e : Enc) (rest : Bytes) (fuel : Nat) (p : Bytes) (h : p.length ≤ fuel) :
    (interior e fuel p).2.flatten ++ encode e ((interior e fuel p).1 ++ rest) = encode e (p ++ rest)
    ∧ (interior e fuel p).1.length < 3 := by
  fun_induction interior e fuel p with
  | case1 p => simp [List.eq_nil_of_length_eq_zero (Nat.le_zero.mp h)]
  | case2 fuel p h3 nn r ih =>
    -- `nn`, the block taken in this iteration, is a positive multiple of 3
    have hnn3 : (p.take nn).length % 3 = 0 := by simp only [nn, List.length_take]; split <;> omega
    obtain ⟨i1, i2⟩ := ih (by simp only [nn, List.length_drop]; split <;> omega)
    refine ⟨?_, i2⟩
    rw [List.flatten_cons, List.append_assoc, i1, ← encode_append3 e _ _ hnn3, ← List.append_assoc,
      List.take_append_drop]
  | case3 fuel p h3 => exact ⟨by simp, Nat.lt_of_not_le h3⟩

theorem write_spec (e : Enc) (buf p rest : Bytes) (hb : buf.length < 3) :
    (Encoder.write e buf p).2.flatten ++ encode e ((Encoder.write e buf p).1 ++ rest) = encode e (buf ++ p ++ rest)
    ∧ (Encoder.write e buf p).1.length < 3 := by
  fun_cases Encoder.write e buf p with
  | case1 hpos i buf' hlt =>
    -- all of `p` fits into the pending bytes
    have hall : p.take i = p := List.take_of_length_le (by simp only [buf', List.length_append, List.length_take] at hlt; omega)
    simp only [buf', hall] at hlt ⊢
    exact ⟨by simp, hlt⟩
  | case2 hpos i buf' p' hge r =>
    have h3 : buf'.length % 3 = 0 := by
      simp only [buf', List.length_append, List.length_take] at hge ⊢; omega
    obtain ⟨i1, i2⟩ := interior_spec e rest p'.length p' (Nat.le_refl _)
    refine ⟨?_, i2⟩
    rw [List.flatten_cons, List.append_assoc, i1, ← encode_append3 e _ _ h3]
    simp only [buf', List.append_assoc]
    rw [← List.append_assoc (p.take i), List.take_append_drop]
  | case3 hz =>
    rw [List.eq_nil_of_length_eq_zero (Nat.eq_zero_of_not_pos hz)]
    simpa using interior_spec e rest p.length p (Nat.le_refl _)

theorem close_spec (e : Enc) (buf : Bytes) : (Encoder.close e buf).flatten = encode e buf := by
  unfold Encoder.close
  split
  · simp
  · have : buf = [] := List.eq_nil_of_length_eq_zero (by omega)
    subst this; simp [encode]

theorem run_spec (e : Enc) : ∀ (cs : List Bytes) (buf : Bytes), buf.length < 3 →
    (Encoder.run e buf cs).flatten = encode e (buf ++ cs.flatten) := by
  intro cs
  induction cs with
  | nil => intro buf _; simp [Encoder.run, close_spec]
  | cons c cs ih =>
    intro buf hb
    obtain ⟨w1, w2⟩ := write_spec e buf c cs.flatten hb
    simp only [Encoder.run, List.flatten_append, List.flatten_cons]
    rw [ih _ w2, w1, List.append_assoc]

/-- **Streaming = one-shot.**  Whatever the chunking of the `Write` calls, the concatenation of what
`NewEncoder(enc, w)` hands to `w` (including `Close`) is `enc.Encode` of the concatenated input. -/
theorem stream_encode (e : Enc) (cs : List Bytes) : (Encoder.run e [] cs).flatten = encode e cs.flatten := by
  simpa using run_spec e cs [] (by simp)

/-! ### Streaming decoder on any source -/

def Src.filtered (s : Src) : Bytes := s.bytes.filter (fun c => !isNL c)

/-- An answer `(err, s')` of a source with final error `f`: the final error stays, and an error is only
returned, and is `f`, once the source is exhausted. -/
def Src.Answer (f : Err) (err : Option Err) (s' : Src) : Prop :=
  s'.fin = f ∧ (err = none ∨ (err = some f ∧ s'.chunks = []))

theorem rawRead_spec (k : Nat) (s : Src) :
    (rawRead k s).1 ++ (rawRead k s).2.2.bytes = s.bytes ∧ Src.Answer s.fin (rawRead k s).2.1 (rawRead k s).2.2 := by
  unfold rawRead
  cases hch : s.chunks with
  | nil => simp [Src.Answer, hch]
  | cons c cs =>
    simp only
    split
    · simp [Src.bytes, Src.Answer, hch]
    · simp [Src.bytes, Src.Answer, hch, ← List.append_assoc]

theorem filterRead_spec : ∀ (fuel k : Nat) (s : Src),
    (filterRead fuel k s).1 ++ (filterRead fuel k s).2.2.filtered = s.filtered
    ∧ Src.Answer s.fin (filterRead fuel k s).2.1 (filterRead fuel k s).2.2 := by
  intro fuel
  induction fuel with
  | zero => intro k s; simp [filterRead, Src.Answer]
  | succ fuel ih =>
    intro k s
    unfold filterRead
    obtain ⟨hb, ha⟩ := rawRead_spec k s
    generalize rawRead k s = r at hb ha
    obtain ⟨d, err, s'⟩ := r
    have hf : d.filter (fun c => !isNL c) ++ s'.filtered = s.filtered := by
      simp only [Src.filtered, ← hb, List.filter_append]
    simp only at hb ha hf ⊢
    split
    · rename_i hd
      rw [List.isEmpty_iff.mp hd] at hf
      exact ⟨hf, ha⟩
    · split
      · rename_i hd
        obtain ⟨i1, i2⟩ := ih k s'
        rw [List.isEmpty_iff.mp hd] at hf
        exact ⟨i1.trans hf, ha.1 ▸ i2⟩
      · exact ⟨hf, ha⟩

/-- What one `Read` guarantees when `P` is an invariant that rules out a clean end of input. -/
abbrev NoCleanEnd (P : Dec → Prop) (r : Bytes × Option Err × Dec) : Prop :=
  r.2.1 ≠ some .eof ∧ (r.2.1 = none → P r.2.2)

theorem readAll_noCleanEnd {P : Dec → Prop} (sizes : Nat → Nat) (hread : ∀ plen d, P d → NoCleanEnd P (Dec.read plen d))
    (fuel i : Nat) (d : Dec) (h : P d) : (Dec.readAll sizes fuel i d).2 ≠ some .eof := by
  fun_induction Dec.readAll sizes fuel i d with
  | case1 => nofun
  | case2 fuel i d o e d' hr =>
    have := (hread (sizes i) d h).1
    rwa [hr] at this
  | case3 fuel i d o d' hr r ih =>
    have := (hread (sizes i) d h).2
    rw [hr] at this
    exact ih (this rfl)

/-- What the refill loop leaves alone: encoding `E`, pending output `O`, sticky error `X`, final error `f`
of the source, and `B`, the filtered bytes still to be decoded (buffered or in the source). -/
structure Dec.Frame (d : Dec) (E : Enc) (O : Bytes) (X : Option Err) (f : Err) (B : Bytes) : Prop where
  enc : d.enc = E
  out : d.out = O
  err : d.err = X
  ahead : d.buf ++ d.src.filtered = B
  src : Src.Answer f d.readErr d.src

theorem fill_frame (nn : Nat) {d : Dec} {E O X f B} (h : d.Frame E O X f B) : (d.fill nn).Frame E O X f B := by
  obtain ⟨hb, ha⟩ := filterRead_spec d.fuel (nn - d.buf.length) d.src
  exact ⟨h.enc, h.out, h.err, by simp only [Dec.fill, List.append_assoc, hb, h.ahead], h.src.1 ▸ ha⟩

theorem refill_frame (nn fuel : Nat) {d : Dec} {E O X f B} (h : d.Frame E O X f B) :
    (Dec.refill fuel nn d).Frame E O X f B := by
  fun_induction Dec.refill fuel nn d with
  | case1 | case3 => exact h
  | case2 fuel nn d hc ih => exact ih (fill_frame nn h)

/-- Invariant for a source whose final error `f` is not `io.EOF`: no `io.EOF` is held or pending. -/
structure Dec.NotEof (d : Dec) (f : Err) : Prop where
  src : Src.Answer f d.readErr d.src
  err : d.err ≠ some .eof

theorem corrupt_ne_eof (b : Bool) : (if b = true then none else some Err.corrupt) ≠ some .eof := by
  cases b <;> nofun

theorem readShort_notEof {f : Err} (hf : f ≠ .eof) (plen : Nat) (d : Dec) (h : d.NotEof f) :
    NoCleanEnd (·.NotEof f) (Dec.readShort plen d) := by
  have hre : d.readErr ≠ some .eof := by
    rcases h.src.2 with hr | hr
    · simp [hr]
    · simp [hr.1, hf]
  fun_cases Dec.readShort plen d with
  | case1 => exact ⟨nofun, fun _ => ⟨h.src, corrupt_ne_eof _⟩⟩
  | case2 => exact ⟨corrupt_ne_eof _, fun _ => ⟨h.src, corrupt_ne_eof _⟩⟩
  | case3 => exact ⟨hre, fun _ => ⟨h.src, hre⟩⟩
  | case4 =>
    have hE : (if d.readErr = some .eof ∧ d.buf.length > 0 then some .unexpectedEOF else d.readErr) ≠ some .eof := by
      split
      · nofun
      · exact hre
    exact ⟨hE, fun _ => ⟨h.src, hE⟩⟩

theorem readDecode_notEof {f : Err} (plen : Nat) (d : Dec) (h : d.NotEof f) :
    NoCleanEnd (·.NotEof f) (Dec.readDecode plen d) := by
  fun_cases Dec.readDecode plen d with
  | case1 | case2 => exact ⟨corrupt_ne_eof _, fun _ => ⟨h.src, corrupt_ne_eof _⟩⟩

theorem read_notEof {f : Err} (hf : f ≠ .eof) (plen : Nat) (d : Dec) (h : d.NotEof f) :
    NoCleanEnd (·.NotEof f) (Dec.read plen d) := by
  have h1 : ∀ nn, (Dec.refill 4 nn d).NotEof f := fun nn =>
    have hfr := refill_frame nn 4 (d := d) ⟨rfl, rfl, rfl, rfl, h.src⟩
    ⟨hfr.src, hfr.err ▸ h.err⟩
  fun_cases Dec.read plen d with
  | case1 => exact ⟨nofun, fun _ => ⟨h.src, h.err⟩⟩
  | case2 => exact ⟨h.err, fun _ => h⟩
  | case3 => exact readShort_notEof hf plen _ (h1 _)
  | case4 => exact readDecode_notEof plen _ (h1 _)

/-- On a source that ends with an error other than `io.EOF` (a pipe closed with an error) the
streaming decoder never reports a clean end of input. -/
theorem streamDecode_not_eof (e : Enc) (sizes : Nat → Nat) (chunks : List Bytes) (code : Nat) :
    (streamDecode e sizes ⟨chunks, .other code⟩).2 ≠ some .eof :=
  readAll_noCleanEnd sizes (read_notEof (f := .other code) nofun) _ 0 _ ⟨⟨rfl, .inl rfl⟩, nofun⟩

def isBad (e : Enc) (c : UInt8) : Bool := (e.val c).isNone && !isNL c && c != padChar

theorem padTail_ok (acc : List Nat) (cs : Bytes) (h : (padTail acc cs).2 = true) :
    ∀ c ∈ cs, isNL c = true ∨ c = padChar := by
  have hnl : ∀ l : Bytes, (l.dropWhile isNL).isEmpty = true → ∀ c ∈ l, isNL c = true := by
    intro l hl
    have := List.any_dropWhile (p := isNL) (l := l)
    rw [List.isEmpty_iff.mp hl] at this
    simpa using this
  revert h
  fun_cases padTail acc cs with
  | case1 | case2 => nofun
  | case3 _ d r hdw hd =>
    -- `cs` is newlines, `=`, newlines
    intro h c hc
    rw [← List.takeWhile_append_dropWhile (p := isNL) (l := cs), hdw, List.mem_append, List.mem_cons] at hc
    rcases hc with hc | rfl | hc
    · exact .inl (List.all_eq_true.mp List.all_takeWhile c hc)
    · exact .inr (by simpa using hd)
    · exact .inl (hnl r h c hc)
  | case4 => exact fun h c hc => .inl (hnl cs h c hc)

theorem decodeGo_ok (e : Enc) (acc : List Nat) (s : Bytes) (h : (decodeGo e acc s).2 = true) :
    ∀ c ∈ s, isBad e c = false := by
  fun_induction decodeGo e acc s with
  | case1 | case2 | case3 => nofun
  | case4 acc c cs v hv _ r ih | case5 acc c cs v hv _ ih => exact List.forall_mem_cons.mpr ⟨by simp [isBad, hv], ih h⟩
  | case6 acc c cs _ hnl ih => exact List.forall_mem_cons.mpr ⟨by simp [isBad, hnl], ih h⟩
  | case7 | case8 => cases h
  | case9 acc c cs _ _ hp _ =>
    have hc : c = padChar := by simp at hp; exact hp.2
    refine List.forall_mem_cons.mpr ⟨by simp [isBad, hc], fun x hx => ?_⟩
    rcases padTail_ok acc cs h x hx with hx | hx
    · simp [isBad, hx]
    · simp [isBad, hx]

/-- A bad byte is still ahead of the decoder (buffered or in the source), which has not failed yet. -/
structure Dec.BadAhead (d : Dec) (b : UInt8) : Prop where
  bad : isBad d.enc b = true
  pad : d.enc.pad = true
  mem : b ∈ d.buf ++ d.src.filtered
  err : d.err = none
  src : Src.Answer d.src.fin d.readErr d.src

theorem readShort_badAhead (plen : Nat) (d : Dec) (b : UInt8) (h : d.BadAhead b) :
    NoCleanEnd (·.BadAhead b) (Dec.readShort plen d) := by
  fun_cases Dec.readShort plen d with
  | case1 hraw | case2 hraw | case3 hraw => simp [h.pad] at hraw
  | case4 =>
    refine ⟨?_, fun he => ⟨h.bad, h.pad, h.mem, he, h.src⟩⟩
    -- `io.EOF` would need an empty buffer and an exhausted source
    show (if d.readErr = some .eof ∧ d.buf.length > 0 then some .unexpectedEOF else d.readErr) ≠ some .eof
    split
    · nofun
    · rename_i hc
      intro heof
      have hbuf : d.buf = [] := List.eq_nil_of_length_eq_zero (Nat.eq_zero_of_not_pos fun hp => hc ⟨heof, hp⟩)
      have hmem := h.mem
      rcases h.src.2 with hr | hr
      · rw [hr] at heof; cases heof
      · simp [hbuf, Src.filtered, Src.bytes, hr.2] at hmem

theorem readDecode_badAhead (plen : Nat) (d : Dec) (b : UInt8) (h : d.BadAhead b) :
    NoCleanEnd (·.BadAhead b) (Dec.readDecode plen d) := by
  -- without error the decoded prefix of the buffer does not contain the bad byte
  have hrest : (if (decodeRaw d.enc (d.buf.take (d.buf.length / 4 * 4))).2 = true then none else some Err.corrupt) = none →
      b ∈ d.buf.drop (d.buf.length / 4 * 4) ++ d.src.filtered := by
    intro he
    have hmem := h.mem
    rw [← List.take_append_drop (d.buf.length / 4 * 4) d.buf, List.append_assoc, List.mem_append] at hmem
    rcases hmem with hm | hm
    · split at he
      · rename_i hr
        have := decodeGo_ok d.enc [] _ hr b hm
        rw [h.bad] at this; cases this
      · cases he
    · exact hm
  fun_cases Dec.readDecode plen d with
  | case1 | case2 => exact ⟨corrupt_ne_eof _, fun he => ⟨h.bad, h.pad, hrest he, he, h.src⟩⟩

theorem read_badAhead (plen : Nat) (d : Dec) (b : UInt8) (h : d.BadAhead b) :
    NoCleanEnd (·.BadAhead b) (Dec.read plen d) := by
  have h1 : ∀ nn, (Dec.refill 4 nn d).BadAhead b := fun nn =>
    have fr := refill_frame nn 4 (d := d) ⟨rfl, rfl, h.err, rfl, h.src⟩
    ⟨fr.enc ▸ h.bad, fr.enc ▸ h.pad, fr.ahead ▸ h.mem, fr.err, fr.src.1 ▸ fr.src⟩
  fun_cases Dec.read plen d with
  | case1 => exact ⟨nofun, fun _ => ⟨h.bad, h.pad, h.mem, h.err, h.src⟩⟩
  | case2 _ herr => simp [h.err] at herr
  | case3 => exact readShort_badAhead plen _ b (h1 _)
  | case4 => exact readDecode_badAhead plen _ b (h1 _)

/-- **A byte outside the alphabet is always an error.**  If the source contains a byte that is neither
a symbol of the (padded) encoding nor `\r`, `\n` or `=`, the streaming decoder never reports a clean
end of input — whatever the chunking and the read sizes. -/
theorem streamDecode_bad (e : Enc) (hp : e.pad = true) (sizes : Nat → Nat) (s : Src) (b : UInt8) (hb : b ∈ s.bytes)
    (hbad : isBad e b = true) : (streamDecode e sizes s).2 ≠ some .eof := by
  have hnl : isNL b = false := by
    simp only [isBad, Bool.and_eq_true, Bool.not_eq_true'] at hbad; exact hbad.1.2
  exact readAll_noCleanEnd sizes (fun plen d h => read_badAhead plen d b h) _ 0 _
    ⟨hbad, hp, by simp [Dec.new, Src.filtered, hb, hnl], rfl, rfl, .inl rfl⟩

/-! ### Streaming decoder on a clean source

`Clean s`: every chunk is non-empty and free of `\r`/`\n` (what an `io.Pipe` fed with whitespace-split
words delivers). -/

def Clean (s : Src) : Prop := ∀ c ∈ s.chunks, c ≠ [] ∧ ∀ x ∈ c, isNL x = false

theorem Clean.filtered {s : Src} (h : Clean s) : s.filtered = s.bytes :=
  List.filter_eq_self.mpr fun x hx => by
    obtain ⟨c, hc, hxc⟩ := List.mem_flatten.mp hx
    simp [(h c hc).2 x hxc]

theorem filterRead_clean (fuel k : Nat) (s : Src) (hf : 1 ≤ fuel) (hk : 1 ≤ k) (hc : Clean s) :
    Clean (filterRead fuel k s).2.2 ∧ ((filterRead fuel k s).2.1 = none → (filterRead fuel k s).1 ≠ []) := by
  obtain ⟨f0, rfl⟩ : ∃ f0, fuel = f0 + 1 := ⟨fuel - 1, by omega⟩
  unfold filterRead rawRead
  cases hch : s.chunks with
  | nil => exact ⟨hc, nofun⟩
  | cons c cs =>
    have hcs : ∀ x ∈ cs, x ≠ [] ∧ ∀ y ∈ x, isNL y = false := fun x hx =>
      hc x (hch ▸ List.mem_cons_of_mem _ hx)
    obtain ⟨hne, hnl⟩ := hc c (hch ▸ List.mem_cons_self ..)
    -- the piece handed out is not empty and passes the filter unchanged
    have hpiece : ∀ p : Bytes, (∀ x ∈ p, x ∈ c) → p ≠ [] →
        p.isEmpty = false ∧ p.filter (fun x => !isNL x) = p := fun p hp hp0 =>
      ⟨by simp [hp0], List.filter_eq_self.mpr fun x hx => by simp [hnl x (hp x hx)]⟩
    simp only
    split
    · obtain ⟨h1, h2⟩ := hpiece c (fun _ h => h) hne
      simp only [h1, h2, Bool.false_eq_true, if_false]
      exact ⟨hcs, fun _ => hne⟩
    · have htk : c.take k ≠ [] := by
        simp only [ne_eq, List.take_eq_nil_iff, hne, or_false]; omega
      obtain ⟨h1, h2⟩ := hpiece (c.take k) (fun _ => List.mem_of_mem_take) htk
      simp only [h1, h2, Bool.false_eq_true, if_false]
      refine ⟨fun x hx => ?_, fun _ => htk⟩
      rcases List.mem_cons.mp hx with rfl | hx
      · exact ⟨by rw [ne_eq, List.drop_eq_nil_iff]; omega, fun y hy => hnl y (List.mem_of_mem_drop hy)⟩
      · exact hcs x hx

theorem refill_clean (nn : Nat) (hnn : 4 ≤ nn) (fuel : Nat) (d : Dec) (hc : Clean d.src) (hf : 1 ≤ d.fuel)
    (h : d.readErr = none → 4 ≤ fuel + d.buf.length) :
    Clean (Dec.refill fuel nn d).src ∧ 1 ≤ (Dec.refill fuel nn d).fuel
      ∧ ((Dec.refill fuel nn d).readErr = none → 4 ≤ (Dec.refill fuel nn d).buf.length) := by
  fun_induction Dec.refill fuel nn d with
  | case1 nn d => exact ⟨hc, hf, by simpa using h⟩
  | case2 fuel nn d hcond ih =>
    obtain ⟨h1, h2⟩ := filterRead_clean d.fuel (nn - d.buf.length) d.src hf (by omega) hc
    refine ih hnn h1 hf fun hr => ?_
    have := List.length_pos_iff.mpr (h2 hr)
    have := h hcond.2
    simp only [Dec.fill, List.length_append]
    omega
  | case3 fuel nn d hcond => exact ⟨hc, hf, fun hr => Nat.le_of_not_lt fun hlt => hcond ⟨hlt, hr⟩⟩

theorem encode_take_drop (e : Enc) (hp : e.pad = true) (y : Bytes) (m : Nat) :
    (encode e y).take (m * 4) = encode e (y.take (m * 3)) ∧ (encode e y).drop (m * 4) = encode e (y.drop (m * 3)) := by
  have hlen := encode_length_pad e hp
  by_cases hm : m * 3 ≤ y.length
  · have hs := encode_append3 e (y.take (m * 3)) (y.drop (m * 3)) (by simp only [List.length_take]; omega)
    have hl : (encode e (y.take (m * 3))).length = m * 4 := by rw [hlen, List.length_take]; omega
    rw [List.take_append_drop] at hs
    rw [hs]
    exact ⟨List.take_left' hl, List.drop_left' hl⟩
  · have hall : (encode e y).length ≤ m * 4 := by rw [hlen]; omega
    rw [List.take_of_length_le hall, List.drop_of_length_le hall, List.take_of_length_le (by omega),
      List.drop_of_length_le (by omega)]
    exact ⟨rfl, rfl⟩

/-- `b`: the bytes still due from a decoder in state `d` that reads a clean complete encoding in `e`. -/
structure Dec.Good (e : Enc) (d : Dec) (b : Bytes) : Prop where
  clean : Clean d.src
  fuel : 1 ≤ d.fuel
  rest : ∃ y, d.Frame e d.out none .eof (encode e y) ∧ b = d.out ++ y

theorem read_good {e : Enc} (ge : e.Good) (hpad : e.pad = true) (plen : Nat) (hp : 1 ≤ plen) (d : Dec) (b : Bytes)
    (g : d.Good e b) :
    (b = [] ∧ (Dec.read plen d).1 = [] ∧ (Dec.read plen d).2.1 = some .eof)
    ∨ (∃ o b', o ≠ [] ∧ b = o ++ b' ∧ (Dec.read plen d).1 = o ∧ (Dec.read plen d).2.1 = none
        ∧ (Dec.read plen d).2.2.Good e b') := by
  obtain ⟨y, fr, hb⟩ := g.rest
  have htake : ∀ l : Bytes, l ≠ [] → l.take plen ≠ [] := fun l hl => by
    simp only [ne_eq, List.take_eq_nil_iff, hl, or_false]; omega
  unfold Dec.read
  split
  · -- leftover output
    rename_i hout
    exact .inr ⟨d.out.take plen, d.out.drop plen ++ y, htake _ (List.length_pos_iff.mp hout),
      by rw [hb, ← List.append_assoc, List.take_append_drop], rfl, rfl, g.clean, g.fuel, y,
      ⟨fr.enc, rfl, fr.err, fr.ahead, fr.src⟩, rfl⟩
  · have hout0 : d.out = [] := List.eq_nil_of_length_eq_zero (by omega)
    simp only [fr.err, Option.isSome_none, Bool.false_eq_true, if_false]
    generalize hnn : min (max (plen / 3 * 4) 4) 1024 = nn
    obtain ⟨hc1, hf1, hfull⟩ := refill_clean nn (by omega) 4 d g.clean g.fuel (fun _ => by omega)
    have fr1 := refill_frame nn 4 fr
    generalize Dec.refill 4 nn d = d1 at hc1 hf1 hfull fr1 ⊢
    have hahead : d1.buf ++ d1.src.bytes = encode e y := hc1.filtered ▸ fr1.ahead
    have hlen := encode_length_pad e hpad y
    split
    · -- fewer than four bytes: the source is exhausted and the whole encoding is in the buffer
      rename_i hlt
      have hre : d1.readErr = some .eof ∧ d1.src.chunks = [] := by
        rcases fr1.src.2 with h | h
        · have := hfull h; omega
        · exact h
      have hbuf : d1.buf = encode e y := by simpa [Src.bytes, hre.2] using hahead
      have hy0 : y = [] := List.eq_nil_of_length_eq_zero (by rw [hbuf, hlen] at hlt; omega)
      have hb0 : ¬ d1.buf.length > 0 := by rw [hbuf, hy0]; simp [encode]
      refine .inl ⟨by rw [hb, hout0, hy0]; rfl, ?_, ?_⟩
      · simp [Dec.readShort, fr1.enc, hpad]
      · simp [Dec.readShort, fr1.enc, hpad, hre.1, hb0]
    · -- the first `m` quanta of the buffer are decoded
      have hm1 : 1 ≤ d1.buf.length / 4 := by omega
      have hm4 : d1.buf.length / 4 * 4 ≤ d1.buf.length := by omega
      unfold Dec.readDecode
      generalize d1.buf.length / 4 = m at hm1 hm4 ⊢
      obtain ⟨e1, e2⟩ := encode_take_drop e hpad y m
      have hdec : decodeRaw d1.enc (d1.buf.take (m * 4)) = (y.take (m * 3), true) := by
        rw [fr1.enc, ← decodeRaw_encode ge, ← e1, ← hahead, List.take_append_of_le_length hm4]
      have hrest : d1.buf.drop (m * 4) ++ d1.src.filtered = encode e (y.drop (m * 3)) := by
        rw [← e2, ← fr1.ahead, List.drop_append_of_le_length hm4]
      have hy1 : y.take (m * 3) ≠ [] := by
        have : 4 ≤ (encode e y).length := by rw [← hahead, List.length_append]; omega
        simp only [ne_eq, List.take_eq_nil_iff]
        rintro (h | h)
        · omega
        · rw [h] at this; simp [encode] at this
      simp only [hdec, if_true]
      split
      · exact .inr ⟨_, (y.take (m * 3)).drop plen ++ y.drop (m * 3), htake _ hy1,
          by rw [hb, hout0, List.nil_append, ← List.append_assoc, List.take_append_drop, List.take_append_drop],
          rfl, rfl, hc1, hf1, _, ⟨fr1.enc, rfl, rfl, hrest, fr1.src⟩, rfl⟩
      · exact .inr ⟨_, _, hy1, by rw [hb, hout0, List.nil_append, List.take_append_drop], rfl, rfl, hc1, hf1, _,
          ⟨fr1.enc, rfl, rfl, hrest, fr1.src⟩, by rw [fr1.out, hout0]; rfl⟩

theorem readAll_good {e : Enc} (ge : e.Good) (hpad : e.pad = true) (sizes : Nat → Nat) (hs : ∀ i, 1 ≤ sizes i) :
    ∀ (fuel i : Nat) (d : Dec) (b : Bytes), d.Good e b → b.length < fuel → Dec.readAll sizes fuel i d = (b, some .eof) := by
  intro fuel
  induction fuel with
  | zero => intro i d b _ h; omega
  | succ fuel ih =>
    intro i d b g hf
    simp only [Dec.readAll]
    rcases read_good ge hpad (sizes i) (hs i) d b g with ⟨h0, h1, h2⟩ | ⟨o, b', hne, hb, h1, h2, h3⟩
    · generalize Dec.read (sizes i) d = r at h1 h2
      obtain ⟨r1, r2, r3⟩ := r
      subst h1 h2 h0
      rfl
    · generalize Dec.read (sizes i) d = r at h1 h2 h3
      obtain ⟨r1, r2, r3⟩ := r
      subst h1 h2 hb
      have : 0 < r1.length := List.length_pos_iff.mpr hne
      simp only
      rw [ih (i + 1) r3 b' h3 (by simp only [List.length_append] at hf; omega)]

/-- **Streaming decode = data**, for every way the encoded text is cut into (non-empty, newline-free)
chunks and every sequence of positive read-buffer sizes: `NewDecoder(enc, src)` for a padded encoding, read to the
end yields the data and `io.EOF`.  (Without padding the last quantum takes the other path of `readShort`:
not proved.) -/
theorem streamDecode_encode {e : Enc} (ge : e.Good) (hpad : e.pad = true) (sizes : Nat → Nat) (hs : ∀ i, 1 ≤ sizes i)
    (chunks : List Bytes) (y : Bytes) (hc : Clean ⟨chunks, .eof⟩) (hy : chunks.flatten = encode e y) :
    streamDecode e sizes ⟨chunks, .eof⟩ = (y, some .eof) := by
  have hlen := encode_length_pad e hpad y
  refine readAll_good ge hpad sizes hs _ 0 _ y ⟨hc, Nat.le_add_left .., y, ⟨rfl, rfl, rfl, ?_, rfl, .inl rfl⟩, rfl⟩ ?_
  · exact hc.filtered.trans hy
  · simp only [Src.bytes, hy]; omega

end Snowflake.Base64
