import Snowflake.Model.Encap
/-!
One `ReadData` call (C09): the stdlib reader models return the same bytes whatever the fragmentation script,
so the operational `readData` is the pure `next`; what the encoder writes is read back.
-/
namespace Snowflake.Encap

theorem readFull_spec (sc : Script) (data : Bytes) (want : Nat) : ∃ sc', sc'.length ≤ sc.length ∧
    readFull sc data want = (data.take want, ⟨data.drop want, sc'⟩) := by
  fun_induction readFull sc data want with
  | case1 => exact ⟨[], Nat.le_refl _, rfl⟩
  | case2 => exact ⟨_, Nat.le_refl _, by simp⟩
  | case3 _ _ _ _ _ ih =>
    obtain ⟨sc', hl, h⟩ := ih
    exact ⟨sc', Nat.le_succ_of_le hl, h⟩
  | case4 k e sc data want _ _ hd =>
    obtain rfl : data = [] := by simpa using hd
    exact ⟨sc, Nat.le_succ _, by simp⟩
  | case5 k e sc data want _ _ _ n got rest h =>
    -- data delivered together with EOF: the source is exhausted
    simp only [Bool.and_eq_true, List.isEmpty_iff, List.drop_eq_nil_iff, rest] at h
    have h2 : data.length ≤ want := by omega
    exact ⟨sc, Nat.le_succ _, by simp only [got, rest, List.take_of_length_le, List.drop_of_length_le, h.2, h2]⟩
  | case6 k e sc data want _ _ _ n got rest _ g2 r hr ih =>
    obtain ⟨sc', hl, h⟩ := ih
    cases hr.symm.trans h
    refine ⟨sc', Nat.le_succ_of_le hl, ?_⟩
    rw [← List.take_add, List.drop_drop, Nat.add_sub_cancel' (Nat.min_le_right k want)]

theorem readFull_script_le (sc : Script) : ∀ (data : Bytes) (want : Nat),
    (readFull sc data want).2.script.length ≤ sc.length := by
  intro data want
  obtain ⟨sc', hl, h⟩ := readFull_spec sc data want
  rw [h]; exact hl

theorem skipN_spec (sc : Script) (data : Bytes) (want : Nat) : ∃ sc',
    skipN sc data want = (min want data.length, ⟨data.drop want, sc'⟩) := by
  fun_induction skipN sc data want with
  | case1 => exact ⟨[], rfl⟩
  | case2 k e sc => exact ⟨(k, e) :: sc, by simp⟩
  | case3 _ _ _ _ _ ih => exact ih
  | case4 k e sc data want _ _ hd =>
    obtain rfl : data = [] := by simpa using hd
    exact ⟨sc, by simp⟩
  | case5 k e sc data want _ _ _ n rest h =>
    simp only [Bool.and_eq_true, List.isEmpty_iff, List.drop_eq_nil_iff, rest] at h
    have h2 : data.length ≤ want := by omega
    refine ⟨sc, ?_⟩
    rw [show rest = [] from List.drop_of_length_le h.2, List.drop_of_length_le h2]
    congr 1; omega
  | case6 k e sc data want _ _ _ n rest _ m r hr ih =>
    obtain ⟨sc', h⟩ := ih
    cases hr.symm.trans h
    refine ⟨sc', ?_⟩
    have hn : n ≤ want := by omega
    rw [List.drop_drop, List.length_drop, Nat.add_sub_cancel' hn]
    congr 1; omega

theorem parsePrefix_local {bs : Bytes} {d : Bool} {n : Nat} {rest : Bytes}
    (h : parsePrefix bs = .ok d n rest) :
    ∃ pre, bs = pre ++ rest ∧ 1 ≤ pre.length ∧ (∀ more, parsePrefix (pre ++ more) = .ok d n more) ∧
      ∀ k, 0 < k → k < pre.length → parsePrefix (pre.take k) = .short := by
  revert d n rest
  fun_cases parsePrefix bs with
  | case2 =>
    rintro _ _ _ ⟨⟩
    exact ⟨[_], rfl, by simp, fun more => by simp +zetaDelta [parsePrefix, *], fun k h0 hk => by simp at hk; omega⟩
  | case4 =>
    rintro _ _ _ ⟨⟩
    refine ⟨[_, _], rfl, by simp, fun more => by simp +zetaDelta [parsePrefix, *], fun k h0 hk => ?_⟩
    obtain rfl : k = 1 := by simp at hk; omega
    simp [parsePrefix, *]
  | case6 =>
    rintro _ _ _ ⟨⟩
    refine ⟨[_, _, _], rfl, by simp, fun more => by simp +zetaDelta [parsePrefix, *], fun k h0 hk => ?_⟩
    obtain rfl | rfl : k = 1 ∨ k = 2 := by simp at hk; omega
    · simp [parsePrefix, *]
    · simp [parsePrefix, *]
  | _ => nofun

theorem parsePrefix_tooLong {bs : Bytes} (h : parsePrefix bs = .tooLong) :
    ∃ pre, pre.length = 3 ∧ bs = pre ++ bs.drop 3 ∧ ∀ more, parsePrefix (pre ++ more) = .tooLong := by
  revert h
  fun_cases parsePrefix bs with
  | case7 =>
    exact fun _ => ⟨[_, _, _], rfl, rfl, fun more => by simp [parsePrefix, *]⟩
  | _ => nofun

theorem parsePrefix_ok_length {bs : Bytes} {d : Bool} {n : Nat} {rest : Bytes}
    (h : parsePrefix bs = .ok d n rest) : rest.length < bs.length := by
  obtain ⟨pre, rfl, h1, _⟩ := parsePrefix_local h
  simp only [List.length_append]; omega

theorem next_succ_ok {fuel : Nat} {bs : Bytes} {d : Bool} {n : Nat} {rest : Bytes}
    (h : parsePrefix bs = .ok d n rest) :
    next (fuel + 1) bs =
      if rest.length < n then (.unexpectedEOF, [])
      else if d then (.chunk (rest.take n), rest.drop n) else next fuel (rest.drop n) := by
  simp only [next, h]

theorem next_fuel (f1 f2 : Nat) (bs : Bytes) (h1 : bs.length < f1) (h2 : bs.length < f2) :
    next f1 bs = next f2 bs := by
  fun_induction next f1 bs generalizing f2 with
  | case1 => omega
  | case7 f1 bs d n rest hp _ _ ih =>
    cases f2 with
    | zero => omega
    | succ f2 =>
      have := parsePrefix_ok_length hp
      rw [next_succ_ok hp, if_neg ‹_›, if_neg ‹_›]
      exact ih f2 (by simp; omega) (by simp; omega)
  | _ =>
    cases f2 with
    | zero => omega
    | succ => simp [next, *]

theorem next_length_le : ∀ (fuel : Nat) (bs : Bytes), (next fuel bs).2.length ≤ bs.length := by
  intro fuel bs
  fun_induction next fuel bs with
  | case6 _ _ _ _ _ hp | case7 _ _ _ _ _ hp =>
    have := parsePrefix_ok_length hp
    simp_all; omega
  | _ => simp

theorem next_cons {pre body : Bytes} {d : Bool} {n : Nat}
    (hp : ∀ more, parsePrefix (pre ++ more) = .ok d n more) (hb : body.length = n) {more : Bytes} {f : Nat}
    (hf : (pre ++ (body ++ more)).length < f) :
    next f (pre ++ (body ++ more)) = if d then (.chunk body, more) else next f more := by
  subst hb
  cases f with
  | zero => omega
  | succ f =>
    rw [next_succ_ok (hp _), if_neg (by simp)]
    cases d with
    | true => simp
    | false =>
      have := parsePrefix_ok_length (hp [])
      simp only [List.length_append] at hf this
      simpa using next_fuel _ _ _ (by omega) (by omega)

theorem readByte_fixed (data : Bytes) (sc : Script) :
    ∃ sc', ∀ prev, readByte true prev ⟨data, sc⟩ = (data.head?, ⟨data.tail, sc'⟩) := by
  obtain ⟨sc', _, h⟩ := readFull_spec sc data 1
  refine ⟨sc', fun prev => ?_⟩
  cases data with
  | nil => simp [readByte, h]
  | cons b r => simp [readByte, h]

theorem readPrefix_fixed (data : Bytes) (sc : Script) :
    ∃ sc', readPrefix true ⟨data, sc⟩ =
      match parsePrefix data with
      | .eof => (.eof, ⟨[], sc'⟩)
      | .short => (.short, ⟨[], sc'⟩)
      | .tooLong => (.tooLong, ⟨data.drop 3, sc'⟩)
      | .ok d n rest => (.ok d n, ⟨rest, sc'⟩) := by
  -- the (up to) three reads, whatever the bytes are; each case of `parsePrefix` stops after one of them
  obtain ⟨s0, h0⟩ := readByte_fixed data sc
  obtain ⟨s1, h1⟩ := readByte_fixed data.tail s0
  obtain ⟨s2, h2⟩ := readByte_fixed data.tail.tail s1
  fun_cases parsePrefix data
  · exact ⟨s0, by simp [readPrefix, h0]⟩
  · exact ⟨s0, by simp_all +zetaDelta [readPrefix]⟩
  · exact ⟨s1, by simp_all [readPrefix]⟩
  · exact ⟨s1, by simp_all +zetaDelta [readPrefix]⟩
  · exact ⟨s2, by simp_all [readPrefix]⟩
  · exact ⟨s2, by simp_all +zetaDelta [readPrefix]⟩
  · exact ⟨s2, by simp_all [readPrefix, Nat.not_lt_of_le]⟩

theorem readBody_spec (d : Bool) (n : Nat) (data : Bytes) (sc : Script) :
    ∃ sc', readBody d n ⟨data, sc⟩ =
      if data.length < n then (some .unexpectedEOF, ⟨[], sc'⟩)
      else if d then (some (.chunk (data.take n)), ⟨data.drop n, sc'⟩)
      else (none, ⟨data.drop n, sc'⟩) := by
  have hmin : min n data.length = n ↔ ¬ data.length < n := by omega
  cases d with
  | true =>
    obtain ⟨sc', _, h⟩ := readFull_spec sc data n
    refine ⟨sc', ?_⟩
    simp only [readBody, if_true, h, List.length_take, hmin]
    by_cases hl : data.length < n
    · simp [hl, List.drop_of_length_le (Nat.le_of_lt hl)]
    · simp [hl]
  | false =>
    obtain ⟨sc', h⟩ := skipN_spec sc data n
    refine ⟨sc', ?_⟩
    simp only [readBody, Bool.false_eq_true, if_false, h, hmin]
    by_cases hl : data.length < n
    · simp [hl, List.drop_of_length_le (Nat.le_of_lt hl)]
    · simp [hl]

theorem readData_next (fuel : Nat) (data : Bytes) (sc : Script) :
    ∃ sc', readData true fuel ⟨data, sc⟩ = ((next fuel data).1, ⟨(next fuel data).2, sc'⟩) := by
  induction fuel generalizing data sc with
  | zero => exact ⟨sc, rfl⟩
  | succ fuel ih =>
    obtain ⟨s1, h1⟩ := readPrefix_fixed data sc
    simp only [readData, next, h1]
    cases parsePrefix data with
    | ok d n rest =>
      obtain ⟨s2, h2⟩ := readBody_spec d n rest s1
      obtain ⟨s3, h3⟩ := ih (rest.drop n) s2
      simp only [h2]
      by_cases c : rest.length < n
      · exact ⟨s2, by simp [c]⟩
      · cases d with
        | true => exact ⟨s2, by simp [c]⟩
        | false => exact ⟨s3, by simp [c, h3]⟩
    | _ => exact ⟨s1, rfl⟩

theorem parsePrefix_one (b0 : UInt8) (rest : Bytes) (h : b0.toNat / 64 % 2 = 0) :
    parsePrefix (b0 :: rest) = .ok (decide (b0.toNat ≥ 128)) (b0.toNat % 64) rest := by
  simp [parsePrefix, h]

theorem parsePrefix_two (b0 b1 : UInt8) (rest : Bytes) (h0 : ¬ b0.toNat / 64 % 2 = 0) (h1 : b1.toNat < 128) :
    parsePrefix (b0 :: b1 :: rest)
      = .ok (decide (b0.toNat ≥ 128)) (b0.toNat % 64 * 128 + b1.toNat % 128) rest := by
  simp [parsePrefix, h0, h1]

theorem parsePrefix_three (b0 b1 b2 : UInt8) (rest : Bytes) (h0 : ¬ b0.toNat / 64 % 2 = 0)
    (h1 : ¬ b1.toNat < 128) (h2 : b2.toNat < 128) :
    parsePrefix (b0 :: b1 :: b2 :: rest)
      = .ok (decide (b0.toNat ≥ 128))
          ((b0.toNat % 64 * 128 + b1.toNat % 128) * 128 + b2.toNat % 128) rest := by
  simp [parsePrefix, h0, h1, h2]

/-! The bytes of a prefix: the head byte carries the data bit, a continuation bit and six length bits `m`;
a later byte a continuation bit and seven length bits. -/

theorem head_byte {dbit m : Nat} (hd : dbit = 0 ∨ dbit = 128) (hm : m < 64) :
    (UInt8.ofNat (dbit + m)).toNat / 64 % 2 = 0 ∧ (UInt8.ofNat (dbit + m)).toNat % 64 = m ∧
      decide ((UInt8.ofNat (dbit + m)).toNat ≥ 128) = decide (dbit = 128) := by
  rw [UInt8.toNat_ofNat_of_lt' (by simp only [UInt8.size]; omega), decide_eq_decide]
  omega

theorem head_byte_cont {dbit m : Nat} (hd : dbit = 0 ∨ dbit = 128) (hm : m < 64) :
    ¬ (UInt8.ofNat (dbit + 64 + m)).toNat / 64 % 2 = 0 ∧ (UInt8.ofNat (dbit + 64 + m)).toNat % 64 = m ∧
      decide ((UInt8.ofNat (dbit + 64 + m)).toNat ≥ 128) = decide (dbit = 128) := by
  rw [UInt8.toNat_ofNat_of_lt' (by simp only [UInt8.size]; omega), decide_eq_decide]
  omega

theorem last_byte {m : Nat} (hm : m < 128) :
    (UInt8.ofNat m).toNat < 128 ∧ (UInt8.ofNat m).toNat % 128 = m := by
  rw [UInt8.toNat_ofNat_of_lt' (by simp only [UInt8.size]; omega)]; omega

theorem mid_byte {m : Nat} (hm : m < 128) :
    ¬ (UInt8.ofNat (128 + m)).toNat < 128 ∧ (UInt8.ofNat (128 + m)).toNat % 128 = m := by
  rw [UInt8.toNat_ofNat_of_lt' (by simp only [UInt8.size]; omega)]; omega

/-! Each wire form decodes for every length that fits its bits, not only for the lengths the encoder uses it
for (`WritePadding` writes 63 in the two-byte form). -/

theorem parsePrefix_form1 {dbit m : Nat} (hd : dbit = 0 ∨ dbit = 128) (hm : m < 64) (rest : Bytes) :
    parsePrefix (UInt8.ofNat (dbit + m) :: rest) = .ok (decide (dbit = 128)) m rest := by
  obtain ⟨a, b, c⟩ := head_byte hd hm
  rw [parsePrefix_one _ _ a, b, c]

theorem parsePrefix_form2 {dbit m : Nat} (hd : dbit = 0 ∨ dbit = 128) (hm : m < 8192) (rest : Bytes) :
    parsePrefix (UInt8.ofNat (dbit + 64 + m / 128) :: UInt8.ofNat (m % 128) :: rest)
      = .ok (decide (dbit = 128)) m rest := by
  obtain ⟨a, b, c⟩ := head_byte_cont hd (Nat.div_lt_of_lt_mul hm : m / 128 < 64)
  obtain ⟨d, e⟩ := last_byte (Nat.mod_lt m (by decide) : m % 128 < 128)
  rw [parsePrefix_two _ _ _ a d, b, c, e, Nat.div_add_mod']

theorem parsePrefix_form3 {dbit m : Nat} (hd : dbit = 0 ∨ dbit = 128) (hm : m < 1048576) (rest : Bytes) :
    parsePrefix (UInt8.ofNat (dbit + 64 + m / 16384) :: UInt8.ofNat (128 + m / 128 % 128) :: UInt8.ofNat (m % 128) :: rest)
      = .ok (decide (dbit = 128)) m rest := by
  obtain ⟨a, b, c⟩ := head_byte_cont hd (Nat.div_lt_of_lt_mul hm : m / 16384 < 64)
  obtain ⟨d, e⟩ := mid_byte (Nat.mod_lt (m / 128) (by decide) : m / 128 % 128 < 128)
  obtain ⟨f, g⟩ := last_byte (Nat.mod_lt m (by decide) : m % 128 < 128)
  -- the three groups of seven bits put together again
  rw [parsePrefix_three _ _ _ _ a d f, b, c, e, g, show m / 16384 = m / 128 / 128 from (Nat.div_div_eq_div_mul m 128 128).symm,
    Nat.div_add_mod', Nat.div_add_mod']

theorem parsePrefix_prefixFor (dbit n : Nat) (p rest : Bytes) (hd : dbit = 0 ∨ dbit = 128)
    (h : prefixFor dbit n = some p) :
    parsePrefix (p ++ rest) = .ok (decide (dbit = 128)) n rest := by
  unfold prefixFor at h
  split at h
  · cases h; exact parsePrefix_form1 hd ‹_› rest
  split at h
  · cases h; exact parsePrefix_form2 hd ‹_› rest
  split at h
  · cases h; exact parsePrefix_form3 hd ‹_› rest
  · cases h

def prefixLen (n : Nat) : Nat := if n < 64 then 1 else if n < 8192 then 2 else 3

theorem prefixLen_cases (n : Nat) :
    (n < 64 ∧ prefixLen n = 1) ∨ (64 ≤ n ∧ n < 8192 ∧ prefixLen n = 2) ∨ (8192 ≤ n ∧ prefixLen n = 3) := by
  unfold prefixLen
  repeat' split
  all_goals omega

theorem dataPrefix_some {n : Nat} (h : n < 1048576) :
    ∃ p, dataPrefix n = some p ∧ p.length = prefixLen n := by
  unfold dataPrefix prefixFor prefixLen
  repeat' split
  all_goals first | exact ⟨_, rfl, rfl⟩ | omega

theorem dataPrefix_none {n : Nat} (h : 1048576 ≤ n) : dataPrefix n = none := by
  unfold dataPrefix prefixFor
  repeat' split
  all_goals first | rfl | omega

theorem maxDataForSize_eq (n : Nat) :
    maxDataForSize n = if n < 1048576 then n - prefixLen n else 1048572 := by
  by_cases h : n < 1048576
  · obtain ⟨p, hp, hl⟩ := dataPrefix_some h
    simp [maxDataForSize, hp, hl, h]
  · simp [maxDataForSize, dataPrefix_none (Nat.le_of_not_lt h), h]

theorem encodeItems_append (a b : List Item) : encodeItems (a ++ b) = encodeItems a ++ encodeItems b := by
  simp [encodeItems]

theorem encodeItems_cons (it : Item) (is : List Item) : encodeItems (it :: is) = encodeItem it ++ encodeItems is := by
  simp [encodeItems]

/-- Not always `prefixFor 0 m`: a block of 65 bytes takes the two-byte form of 63. -/
theorem paddingBlock_spec (p : Nat) (hp1 : 1 ≤ p) (hp2 : p ≤ 1024) :
    ∃ m pre, paddingBlock p = pre ++ List.replicate m 0 ∧ pre.length + m = p ∧
      ∀ rest, parsePrefix (pre ++ rest) = .ok false m rest := by
  unfold paddingBlock
  split
  · exact ⟨p - 1, [_], rfl, by simp; omega, fun rest => by simpa using parsePrefix_form1 (Or.inl rfl) ‹_› rest⟩
  · -- the three-byte branch, whose `% 64` mirrors Go's `&0x3f`, is out of reach for `p ≤ 1024`
    rw [if_pos (by omega)]
    exact ⟨p - 2, [_, _], rfl, by simp; omega,
      fun rest => by simpa using parsePrefix_form2 (Or.inl rfl) (by omega) rest⟩

theorem padding_unfold {n : Nat} (hn : n ≠ 0) :
    padding n = paddingBlock (min 1024 n) ++ padding (n - min 1024 n) := by
  rw [padding]; simp [hn, paddingBufferLen]

theorem padding_length (n : Nat) : (padding n).length = n := by
  fun_induction padding n with
  | case1 => rfl
  | case2 n hn p ih =>
    have : paddingBufferLen = 1024 := rfl
    obtain ⟨m, pre, hb, hlen, _⟩ := paddingBlock_spec p (by omega) (by omega)
    rw [List.length_append, ih, hb, List.length_append, List.length_replicate]
    omega

theorem next_padding (n : Nat) (tail : Bytes) (fuel : Nat) (hf : (padding n ++ tail).length < fuel) :
    next fuel (padding n ++ tail) = next fuel tail := by
  fun_induction padding n with
  | case1 => rfl
  | case2 n hn p ih =>
    have : paddingBufferLen = 1024 := rfl
    obtain ⟨m, pre, hb, hlen, hpre⟩ := paddingBlock_spec p (by omega) (by omega)
    rw [hb, List.append_assoc, List.append_assoc] at hf ⊢
    rw [next_cons hpre List.length_replicate hf]
    exact ih (by simp only [List.length_append] at hf ⊢; omega)

end Snowflake.Encap
