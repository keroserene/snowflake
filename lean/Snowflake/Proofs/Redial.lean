import Snowflake.Model.Redial
import Snowflake.Base.TotalMap
/-!
Invariants of the `RedialPacketConn` LTS (`Snowflake.Model.Redial`); progress and rank lemmas for the
goroutines of a closed carrier; and the stability lemma behind the negative witnesses (a sender on an
unbuffered error channel whose receivers are gone stays blocked in every continuation).
-/
namespace Snowflake.Redial

/-- What a step cannot do to a dialed carrier `k`: forget it, reopen it, or, unless it is a step of the
carrier's own goroutines, move their program counters or bring `exchange` back to it. -/
theorem step_frame {capR capW : Nat} {s s' : St} {l : Label} {k : Nat}
    (hs : step capR capW s l = some s') (hk : k < s.n) :
    k < s'.n ∧ (s.cclosed k = true → s'.cclosed k = true) ∧
    (l ∉ groupLabels k → s'.rd k = s.rd k ∧ s'.wr k = s.wr k ∧ (s'.main = .selecting k → s.main = .selecting k)) := by
  cases l with
  | dialOk =>
    obtain ⟨hc, rfl⟩ := Option.ite_some_none_eq_some.mp hs
    exact ⟨Nat.lt_succ_of_lt hk, id, fun _ => by simp [upd, Nat.ne_of_lt hk, Nat.ne_of_gt hk]⟩
  | mClose j =>
    obtain ⟨hc, rfl⟩ := Option.ite_some_none_eq_some.mp hs
    exact ⟨hk, fun h => by simp only [upd]; split <;> simp [h], fun _ => ⟨rfl, rfl, nofun⟩⟩
  | mTopClosed | mTopDefault | mRecvR j | mRecvW j =>
    obtain ⟨hc, rfl⟩ := Option.ite_some_none_eq_some.mp hs
    exact ⟨hk, id, fun _ => ⟨rfl, rfl, nofun⟩⟩
  | dialFail | userClose | apiWrite | apiRead =>
    dsimp only [step] at hs
    repeat' split at hs
    all_goals cases hs
    all_goals exact ⟨hk, id, fun _ => ⟨rfl, rfl, by simp⟩⟩
  | _ =>
    -- a goroutine of carrier `j`: `j ≠ k` unless the label is one of `k`'s
    obtain ⟨hc, rfl⟩ := Option.ite_some_none_eq_some.mp hs
    refine ⟨hk, id, fun hl => ?_⟩
    simp [groupLabels] at hl
    simp [upd, Ne.symm hl]

/-- the carrier `dialLoop` is exchanging on or about to close -/
def MPC.cur : MPC → Option Nat
  | .selecting k | .closing k => some k
  | _ => none

/-- `dialLoop`'s carrier discipline, over the components `s.n`, `s.main.cur`, `s.cclosed`: of the carriers
dialed so far only the current one can be open, and it is the last. -/
structure Carr (n : Nat) (cur : Option Nat) (cc : Nat → Bool) : Prop where
  openIsCurrent : ∀ k, k < n → cc k = false → cur = some k
  currentIsLast : ∀ k, cur = some k → k + 1 = n
  closedDialed : ∀ k, cc k = true → k < n

theorem Carr.dial {n cc} (h : Carr n none cc) : Carr (n + 1) (some n) cc :=
  ⟨fun k hk hc => by
      have := h.openIsCurrent k
      grind,
   fun k e => by cases e; rfl, fun k hc => Nat.lt_succ_of_lt (h.closedDialed k hc)⟩

theorem Carr.close {n k cc} (h : Carr n (some k) cc) : Carr n none (upd cc k true) := by
  have hk := h.currentIsLast k rfl
  refine ⟨fun j hj hc => ?_, nofun, fun j hc => ?_⟩
  · have := h.openIsCurrent j hj; unfold upd at hc; grind
  · have := h.closedDialed j; unfold upd at hc; grind

/-- Why an error can reach the caller (`errClosed`, `closedWhy`), and the carrier discipline. -/
structure Inv1 (s : St) : Prop where
  errClosed : s.errSurfaced = true → s.closed = true
  closedWhy : s.closed = true → s.userClosed = true ∨ s.dialFailed = true
  carr : Carr s.n s.main.cur s.cclosed

theorem inv1_init : Inv1 init := ⟨nofun, nofun, ⟨nofun, nofun, nofun⟩⟩

/-- Only `dialOk` and `mClose` change the current carrier; only a failed dial, `Close` and the API calls
touch the error flags. -/
theorem inv1_step {capR capW : Nat} {s s' : St} {l : Label} (hs : step capR capW s l = some s')
    (hi : Inv1 s) : Inv1 s' := by
  obtain ⟨h1, h2, hk⟩ := hi
  cases l with
  | dialOk => obtain ⟨hc, rfl⟩ := Option.ite_some_none_eq_some.mp hs; rw [hc] at hk; exact ⟨h1, h2, hk.dial⟩
  | mClose k => obtain ⟨hc, rfl⟩ := Option.ite_some_none_eq_some.mp hs; rw [hc] at hk; exact ⟨h1, h2, hk.close⟩
  | mTopClosed | mTopDefault | mRecvR k | mRecvW k =>
    obtain ⟨hc, rfl⟩ := Option.ite_some_none_eq_some.mp hs; rw [hc.1] at hk; exact ⟨h1, h2, hk⟩
  | rSendToMain k | wSendToMain k =>
    obtain ⟨hc, rfl⟩ := Option.ite_some_none_eq_some.mp hs; rw [hc.2] at hk; exact ⟨h1, h2, hk⟩
  | dialFail =>
    dsimp only [step] at hs
    split at hs
    · next hc =>
      rw [hc] at hk
      split at hs <;> cases hs
      · exact ⟨h1, h2, hk⟩
      · exact ⟨fun _ => rfl, fun _ => .inr rfl, hk⟩
    · cases hs
  | userClose =>
    dsimp only [step] at hs
    split at hs <;> cases hs
    · exact ⟨h1, h2, hk⟩
    · exact ⟨fun _ => rfl, fun _ => .inl rfl, hk⟩
  | apiWrite | apiRead =>
    dsimp only [step] at hs
    split at hs
    · next hc => cases hs; exact ⟨fun _ => hc, h2, hk⟩
    · repeat' split at hs
      all_goals cases hs
      all_goals exact ⟨h1, h2, hk⟩
  | _ => obtain ⟨hc, rfl⟩ := Option.ite_some_none_eq_some.mp hs; exact ⟨h1, h2, hk⟩

/-- Each goroutine with the error channel it owns: a value is buffered only once the sender has moved on
(`rbuf`, `wbuf`), a returned goroutine has closed its channel (`rdone`, `wdone`), and goroutines exist exactly
for the dialed carriers.  This is what `group_progress` needs. -/
structure Inv2 (s : St) : Prop where
  rbuf : ∀ k, (s.rch k).buf = 0 ∨ s.rd k = .exiting ∨ s.rd k = .done
  wbuf : ∀ k, (s.wch k).buf = 0 ∨ s.wr k = .exiting ∨ s.wr k = .done
  rdone : ∀ k, s.rd k = .done → (s.rch k).closed = true
  wdone : ∀ k, s.wr k = .done → (s.wch k).closed = true
  present : ∀ k, k < s.n → s.rd k ≠ .absent ∧ s.wr k ≠ .absent
  absent : ∀ k, s.n ≤ k → s.rd k = .absent ∧ s.wr k = .absent

theorem inv2_init : Inv2 init := by
  constructor <;> simp [init]

/-- `Inv2` for one goroutine of carrier `j`, at program point `p`, with its error channel `c`
(`ab`, `ex`, `dn`: the points `absent`, `exiting`, `done` of its program-counter type). -/
structure GOk {α : Type} (ab ex dn : α) (n j : Nat) (p : α) (c : Chan) : Prop where
  buf : c.buf = 0 ∨ p = ex ∨ p = dn
  done : p = dn → c.closed = true
  present : j < n → p ≠ ab
  absent : n ≤ j → p = ab

abbrev ROk (s : St) (j : Nat) := GOk .absent .exiting .done s.n j (s.rd j) (s.rch j)
abbrev WOk (s : St) (j : Nat) := GOk .absent .exiting .done s.n j (s.wr j) (s.wch j)

/-- The labels that move a reader or touch a `readErrCh`; the others pass `ROk` unchanged. -/
theorem rOk_step {capR capW : Nat} {s s' : St} {l : Label} (hs : step capR capW s l = some s')
    (hr : ∀ j, ROk s j) : ∀ j, ROk s' j := by
  cases l with
  | dialOk | mRecvR k | rSelClosed k | rSelW k | rDefault k | readOk k | readFail k | rSend k | rExit k
  | rSendToMain k | rSendToWriter k | wSelR k | wSendToReader k =>
    obtain ⟨hc, rfl⟩ := Option.ite_some_none_eq_some.mp hs
    intro j
    grind [upd, Chan.recv, GOk]
  | dialFail | userClose | apiWrite | apiRead =>
    dsimp only [step] at hs
    repeat' split at hs
    all_goals cases hs
    all_goals exact hr
  | _ => obtain ⟨hc, rfl⟩ := Option.ite_some_none_eq_some.mp hs; exact hr

theorem wOk_step {capR capW : Nat} {s s' : St} {l : Label} (hs : step capR capW s l = some s')
    (hw : ∀ j, WOk s j) : ∀ j, WOk s' j := by
  cases l with
  | dialOk | mRecvW k | wSelClosed k | wSelR k | wSelPkt k | writeOk k | writeFail k | wSend k | wExit k
  | wSendToMain k | wSendToReader k | rSelW k | rSendToWriter k =>
    obtain ⟨hc, rfl⟩ := Option.ite_some_none_eq_some.mp hs
    intro j
    grind [upd, Chan.recv, GOk]
  | dialFail | userClose | apiWrite | apiRead =>
    dsimp only [step] at hs
    repeat' split at hs
    all_goals cases hs
    all_goals exact hw
  | _ => obtain ⟨hc, rfl⟩ := Option.ite_some_none_eq_some.mp hs; exact hw

theorem inv2_step {capR capW : Nat} {s s' : St} {l : Label} (hs : step capR capW s l = some s')
    (hi : Inv2 s) : Inv2 s' :=
  have hr := rOk_step hs fun j =>
    ⟨hi.rbuf j, hi.rdone j, fun hj => (hi.present j hj).1, fun hj => (hi.absent j hj).1⟩
  have hw := wOk_step hs fun j =>
    ⟨hi.wbuf j, hi.wdone j, fun hj => (hi.present j hj).2, fun hj => (hi.absent j hj).2⟩
  ⟨fun j => (hr j).buf, fun j => (hw j).buf, fun j => (hr j).done, fun j => (hw j).done,
    fun j hj => ⟨(hr j).present hj, (hw j).present hj⟩, fun j hj => ⟨(hr j).absent hj, (hw j).absent hj⟩⟩

theorem inv_reachable {capR capW : Nat} {s : St} (h : Reachable capR capW s) : Inv1 s ∧ Inv2 s := by
  induction h with
  | init => exact ⟨inv1_init, inv2_init⟩
  | step _ hs ih => exact ⟨inv1_step hs ih.1, inv2_step hs ih.2⟩

/-! ## The goroutines of a closed carrier return -/

theorem rank_eq_zero_iff {s : St} {k : Nat} (hp : s.rd k ≠ .absent ∧ s.wr k ≠ .absent) :
    rank s k = 0 ↔ finished s k := by
  unfold rank finished
  cases hr : s.rd k <;> cases hw : s.wr k <;> simp_all [rrank, wrank]

/-- With both error channels buffered the goroutines of a dialed carrier have an enabled step of their
own until both have returned: the reader always (its `ReadFrom` on the carrier is assumed to return),
the writer at the latest once the reader has returned and `readErrCh` is closed. -/
theorem group_progress {capR capW : Nat} (hR : 1 ≤ capR) (hW : 1 ≤ capW) {s : St} (i2 : Inv2 s)
    {k : Nat} (hk : k < s.n) (h : 0 < rank s k) :
    ∃ l ∈ groupLabels k, (step capR capW s l).isSome = true := by
  have hp := i2.present k hk
  have hrb := i2.rbuf k
  have hwb := i2.wbuf k
  cases hr : s.rd k with
  | absent => exact absurd hr hp.1
  | top =>
    by_cases hc : s.closed = true
    · exact ⟨.rSelClosed k, by simp [groupLabels], by simp [step, hr, hc]⟩
    · by_cases hw : (s.wch k).ready = true
      · exact ⟨.rSelW k, by simp [groupLabels], by simp [step, hr, hw]⟩
      · exact ⟨.rDefault k, by simp [groupLabels], by simp [step, hr, hc, hw]⟩
  | reading => exact ⟨.readFail k, by simp [groupLabels], by simp [step, hr]⟩
  | sending => exact ⟨.rSend k, by simp [groupLabels], by simp_all [step]; omega⟩
  | exiting => exact ⟨.rExit k, by simp [groupLabels], by simp [step, hr]⟩
  | done =>
    have hcl := i2.rdone k hr
    cases hw : s.wr k with
    | absent => exact absurd hw hp.2
    | select => exact ⟨.wSelR k, by simp [groupLabels], by simp [step, hw, Chan.ready, hcl]⟩
    | writing => exact ⟨.writeFail k, by simp [groupLabels], by simp [step, hw]⟩
    | sending => exact ⟨.wSend k, by simp [groupLabels], by simp_all [step]; omega⟩
    | exiting => exact ⟨.wExit k, by simp [groupLabels], by simp [step, hw]⟩
    | done => simp [rank, rrank, wrank, hr, hw] at h

/-- A step of the goroutines of a closed carrier decreases its rank (`readOk`/`writeOk`, which
would go back to the top of the loop, are disabled on a closed carrier). -/
theorem rank_lt {capR capW : Nat} {s s' : St} {l : Label} {k : Nat}
    (hs : step capR capW s l = some s') (hc : s.cclosed k = true) (hl : l ∈ groupLabels k) :
    rank s' k < rank s k := by
  cases l
  all_goals simp [groupLabels] at hl
  all_goals subst hl
  all_goals obtain ⟨hg, rfl⟩ := Option.ite_some_none_eq_some.mp hs
  all_goals simp_all [rank, upd, rrank, wrank]

/-- `rank` is a variant for the goroutines of a closed carrier (clause 2 of C17 `no_retained_goroutine`);
the last two conjuncts keep the hypotheses along a run. -/
theorem rank_step {capR capW : Nat} {s s' : St} {l : Label} {k : Nat}
    (hs : step capR capW s l = some s') (hc : s.cclosed k = true) (hk : k < s.n) :
    rank s' k ≤ rank s k ∧ (l ∈ groupLabels k → rank s' k < rank s k) ∧ s'.cclosed k = true ∧ k < s'.n := by
  obtain ⟨hn, hcc, hf⟩ := step_frame hs hk
  refine ⟨?_, rank_lt hs hc, hcc hc, hn⟩
  by_cases hl : l ∈ groupLabels k
  · exact Nat.le_of_lt (rank_lt hs hc hl)
  · obtain ⟨h1, h2, _⟩ := hf hl
    simp [rank, h1, h2]

theorem run_eq_runL (capR capW : Nat) (s : St) (ls : List Label) :
    run capR capW s ls = TotalMap.runL (step capR capW) s ls := by
  fun_induction run capR capW s ls <;> simp_all [TotalMap.runL]

theorem run_append (capR capW : Nat) : ∀ (ls ms : List Label) (s : St),
    run capR capW s (ls ++ ms) = (run capR capW s ls).bind (fun s' => run capR capW s' ms) := by
  intro ls ms s
  simp only [run_eq_runL, TotalMap.runL_append]

theorem run_inv {capR capW : Nat} {P : St → Prop} (hstep : ∀ s l s', step capR capW s l = some s' → P s → P s')
    {s s' : St} {ls : List Label} (h : P s) (hr : run capR capW s ls = some s') : P s' :=
  TotalMap.runL_inv P (fun _ => True) (fun s l s' hp _ hs => hstep s l s' hs hp) ls h (fun _ _ => trivial)
    (run_eq_runL .. ▸ hr)

/-- Clause 3 of C17 `no_retained_goroutine`: `group_progress` gives an enabled step, `rank_lt` makes it count. -/
theorem can_finish {capR capW : Nat} (hR : 1 ≤ capR) (hW : 1 ≤ capW) {k : Nat} {s : St}
    (i2 : Inv2 s) (hk : k < s.n) (hc : s.cclosed k = true) :
    ∃ ls s', (∀ l ∈ ls, l ∈ groupLabels k) ∧ ls.length ≤ rank s k ∧ run capR capW s ls = some s'
      ∧ finished s' k := by
  obtain ⟨ls, s', hlen, hok, hrun, hf⟩ := TotalMap.runL_of_progress
    (fun s => Inv2 s ∧ s.cclosed k = true ∧ k < s.n) (finished · k) (· ∈ groupLabels k) (rank · k)
    (fun s l s' ⟨i2, hc, hk⟩ _ hs => ⟨inv2_step hs i2, (rank_step hs hc hk).2.2⟩)
    (fun s ⟨i2, hc, hk⟩ hf => by
      have hpos : 0 < rank s k := Nat.pos_of_ne_zero (mt (rank_eq_zero_iff (i2.present k hk)).1 hf)
      obtain ⟨l, hl, he⟩ := group_progress hR hW i2 hk hpos
      obtain ⟨s1, hs⟩ := Option.isSome_iff_exists.mp he
      exact ⟨l, s1, hl, hs, rank_lt hs hc hl⟩)
    ⟨i2, hc, hk⟩
  exact ⟨ls, s', hok, hlen, (run_eq_runL ..).trans hrun, hf⟩

/-! ## Unbuffered error channels: a blocked sender stays blocked -/

/-- The reader of carrier `k` is blocked in `readErrCh <- err` while `exchange` has moved on and the
writer has returned: nobody will ever receive. -/
def LeakedReader (s : St) (k : Nat) : Prop :=
  s.rd k = .sending ∧ s.wr k = .done ∧ k < s.n ∧ s.main ≠ .selecting k

/-- The mirror image: the writer is blocked in `writeErrCh <- err`. -/
def LeakedWriter (s : St) (k : Nat) : Prop :=
  s.wr k = .sending ∧ s.rd k = .done ∧ k < s.n ∧ s.main ≠ .selecting k

instance (s : St) (k : Nat) : Decidable (LeakedReader s k) := by unfold LeakedReader; infer_instance
instance (s : St) (k : Nat) : Decidable (LeakedWriter s k) := by unfold LeakedWriter; infer_instance

theorem leaked_blocked {capR capW : Nat} {s : St} {l : Label} {k : Nat}
    (h : capR = 0 ∧ LeakedReader s k ∨ capW = 0 ∧ LeakedWriter s k) (hl : l ∈ groupLabels k) :
    step capR capW s l = none := by
  cases l
  all_goals simp [groupLabels] at hl
  all_goals subst hl
  all_goals rcases h with ⟨rfl, h1, h2, _, h4⟩ | ⟨rfl, h1, h2, _, h4⟩
  all_goals simp [step, h1, h2, h4]

theorem leaked_step {capR capW : Nat} {s s' : St} {l : Label} (k : Nat)
    (hs : step capR capW s l = some s') :
    (capR = 0 → LeakedReader s k → LeakedReader s' k) ∧ (capW = 0 → LeakedWriter s k → LeakedWriter s' k) := by
  by_cases hl : l ∈ groupLabels k
  · constructor
    · intro h0 h; rw [leaked_blocked (.inl ⟨h0, h⟩) hl] at hs; cases hs
    · intro h0 h; rw [leaked_blocked (.inr ⟨h0, h⟩) hl] at hs; cases hs
  · constructor
    all_goals
      intro _ ⟨h1, h2, h3, h4⟩
      obtain ⟨hn, _, hf⟩ := step_frame hs h3
      obtain ⟨e1, e2, e3⟩ := hf hl
      exact ⟨by simp [*], by simp [*], hn, fun e => h4 (e3 e)⟩

/-- `P` holds in the state reached by the schedule (and the schedule is executable). -/
def holdsAfter (capR capW : Nat) (ls : List Label) (P : St → Bool) : Bool :=
  match run capR capW init ls with
  | some s => P s
  | none => false

theorem holdsAfter_spec (capR capW : Nat) (ls : List Label) (P : St → Bool)
    (h : holdsAfter capR capW ls P = true) :
    ∃ s, run capR capW init ls = some s ∧ Reachable capR capW s ∧ P s = true := by
  unfold holdsAfter at h
  cases hr : run capR capW init ls with
  | none => simp [hr] at h
  | some s => exact ⟨s, rfl, run_inv (fun _ _ _ hs h => .step h hs) .init hr, by simpa [hr] using h⟩

end Snowflake.Redial
