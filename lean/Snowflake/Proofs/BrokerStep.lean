import Snowflake.Model.Broker
/-!
The transitions of the repaired broker (`step true`) as a relation: one constructor per label and branch,
the guard as hypotheses, the successor state written out.  Preservation proofs do `cases` on `Step`.
-/
namespace Snowflake.Broker

inductive Step (st : St) : Lab → St → Prop
  | pollArrive (p : Nat) (nat : NatT) (n : Nat) (hh : (st.ss p).h = .absent) (hn : p ∉ st.polls) :
    Step st (.pollArrive p nat n)
      { st with ss := upd st.ss p { (st.ss p) with nat := nat, clients := n, h := .sendPolls },
                polls := st.polls ++ [p] }
  | clientArrive (c : Nat) (nat : NatT) (fp : Nat) (hpc : (st.cs c).pc = .absent) (hn : c ∉ st.clients) :
    Step st (.clientArrive c nat fp)
      { st with cs := upd st.cs c { (st.cs c) with nat := nat, fp := fp, pc := .start },
                clients := st.clients ++ [c] }
  | ansArrive (a p : Nat) (hpc : (st.as a).pc = .absent) (hn : a ∉ st.answers) :
    Step st (.ansArrive a p)
      { st with as := upd st.as a { (st.as a) with sid := p, pc := .lookup }, answers := st.answers ++ [a] }
  | add (p : Nat) (hh : (st.ss p).h = .sendPolls) :
    Step st (.add p)
      { st with ss := upd st.ss p { (st.ss p) with h := .waitOffer, w := .select, inHeap := true,
                                                   heapU := pushU (st.ss p).nat, inMap := true },
                gauge := st.gauge + 1 }
  | wOffer (p c : Nat) (hw : (st.ss p).w = .select) (hpc : (st.cs c).pc = .sendOffer p) :
    Step st (.wOffer p c)
      { st with ss := upd st.ss p { (st.ss p) with w := .forward c, offerFrom := some c },
                cs := upd st.cs c { (st.cs c) with pc := .waitAnswer p } }
  | wTimer (p : Nat) (hw : (st.ss p).w = .select) :
    Step st (.wTimer p) { st with ss := upd st.ss p { (st.ss p) with w := .timedOut } }
  | wCritRemove (p : Nat) (hw : (st.ss p).w = .timedOut) (hi : (st.ss p).inHeap = true) :
    Step st (.wCrit p)
      { st with ss := upd st.ss p { (st.ss p) with w := .done, inHeap := false, inMap := false, closed := true },
                gauge := st.gauge - 1 }
  | wCritLate (p : Nat) (hw : (st.ss p).w = .timedOut) (hi : (st.ss p).inHeap = false) :
    Step st (.wCrit p) { st with ss := upd st.ss p { (st.ss p) with w := .lateRecv } }
  | wLate (p c : Nat) (hw : (st.ss p).w = .lateRecv) (hpc : (st.cs c).pc = .sendOffer p) :
    Step st (.wLate p c)
      { st with ss := upd st.ss p { (st.ss p) with w := .forward c, offerFrom := some c },
                cs := upd st.cs c { (st.cs c) with pc := .waitAnswer p } }
  | wFwd (p c : Nat) (hw : (st.ss p).w = .forward c) (hh : (st.ss p).h = .waitOffer) :
    Step st (.wFwd p) { st with ss := upd st.ss p { (st.ss p) with w := .done, h := .gotOffer c } }
  | hIdle (p : Nat) (hh : (st.ss p).h = .waitOffer) (hc : (st.ss p).closed = true) :
    Step st (.hIdle p) { st with ss := upd st.ss p { (st.ss p) with h := .idle } }
  | hRespondUrl (p c u : Nat) (hh : (st.ss p).h = .gotOffer c) (hb : st.bridge (st.cs c).fp = some u) :
    Step st (.hRespond p) { st with ss := upd st.ss p { (st.ss p) with h := .done, res := .matched c u } }
  | hRespondNoBridge (p c : Nat) (hh : (st.ss p).h = .gotOffer c) (hb : st.bridge (st.cs c).fp = none) :
    Step st (.hRespond p) { st with ss := upd st.ss p { (st.ss p) with h := .done, res := .noBridge c } }
  | hRespondIdle (p : Nat) (hh : (st.ss p).h = .idle) :
    Step st (.hRespond p) { st with ss := upd st.ss p { (st.ss p) with h := .done, res := .idle } }
  | cReject (c : Nat) (hpc : (st.cs c).pc = .start) (hb : st.bridge (st.cs c).fp = none) :
    Step st (.cReject c) { st with cs := upd st.cs c { (st.cs c) with pc := .done, res := .noBridge } }
  | cMatch (c p : Nat) (hpc : (st.cs c).pc = .start) (hb : (st.bridge (st.cs c).fp).isSome)
      (hwt : waiting st (wantU (st.cs c).nat) p = true)
      (hmin : st.polls.all (fun q => !(waiting st (wantU (st.cs c).nat) q)
        || decide ((st.ss p).clients ≤ (st.ss q).clients)) = true) :
    Step st (.cMatch c p)
      { st with ss := upd st.ss p { (st.ss p) with inHeap := false, popBy := some c },
                cs := upd st.cs c { (st.cs c) with pc := .sendOffer p, sf := some p } }
  | cDeny (c : Nat) (hpc : (st.cs c).pc = .start) (hb : (st.bridge (st.cs c).fp).isSome)
      (hnone : st.polls.all (fun q => !(waiting st (wantU (st.cs c).nat) q)) = true) :
    Step st (.cDeny c) { st with cs := upd st.cs c { (st.cs c) with pc := .done, res := .denied } }
  | cRecv (c p a : Nat) (hpc : (st.cs c).pc = .waitAnswer p) (hb : (st.ss p).abuf = some a) :
    Step st (.cRecv c)
      { st with cs := upd st.cs c { (st.cs c) with pc := .fin p, res := .answer a },
                ss := upd st.ss p { (st.ss p) with abuf := none } }
  | cTimer (c p : Nat) (hpc : (st.cs c).pc = .waitAnswer p) :
    Step st (.cTimer c) { st with cs := upd st.cs c { (st.cs c) with pc := .fin p, res := .timedOut } }
  | cFin (c p : Nat) (hpc : (st.cs c).pc = .fin p) :
    Step st (.cFin c)
      { st with cs := upd st.cs c { (st.cs c) with pc := .done },
                ss := upd st.ss p { (st.ss p) with inMap := false },
                gauge := st.gauge - 1 }
  | aLookupFound (a : Nat) (hpc : (st.as a).pc = .lookup) (hm : (st.ss (st.as a).sid).inMap = true) :
    Step st (.aLookup a) { st with as := upd st.as a { (st.as a) with pc := .send (st.as a).sid, ok := true } }
  | aLookupMissing (a : Nat) (hpc : (st.as a).pc = .lookup) (hm : (st.ss (st.as a).sid).inMap = false) :
    Step st (.aLookup a) { st with as := upd st.as a { (st.as a) with pc := .done, ok := false } }
  | aSendPut (a p : Nat) (hpc : (st.as a).pc = .send p) (hb : (st.ss p).abuf = none) :
    Step st (.aSend a)
      { st with as := upd st.as a { (st.as a) with pc := .done },
                ss := upd st.ss p { (st.ss p) with abuf := some a } }
  | aSendDrop (a p b : Nat) (hpc : (st.as a).pc = .send p) (hb : (st.ss p).abuf = some b) :
    Step st (.aSend a) { st with as := upd st.as a { (st.as a) with pc := .done } }

/-- Unfold one step: afterwards each goal has `st'` replaced by the concrete successor state. -/
macro "step_cases" hs:ident : tactic =>
  `(tactic| (simp only [step, if_true, Bool.false_eq_true, and_false, false_and, if_false] at $hs:ident <;>
      (repeat' split at $hs:ident) <;> (try cases $hs:ident)))

theorem Step.of_step {st st' : St} {l : Lab} (hs : step true st l = some st') : Step st l st' := by
  cases l with
  | cAns c a => step_cases hs; simp_all   -- guarded by `fixed = false`
  | aSend a =>
    step_cases hs
    · exact .aSendPut _ _ ‹_› ‹_›
    · exact .aSendDrop _ _ _ ‹_› ‹_›
  | _ => step_cases hs <;> constructor <;> simp_all

theorem Step.step_eq {st st' : St} {l : Lab} (hs : Step st l st') : step true st l = some st' := by
  cases hs <;> simp_all [step]

end Snowflake.Broker
