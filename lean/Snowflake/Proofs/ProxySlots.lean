import Snowflake.Model.ProxySlots
/-!
Invariant of the proxy slot LTS (`Model/ProxySlots.lean`) for the repaired skeleton (`fixed = true`),
proved in two parts (`inv_iff`): `Sess.Ok` for each session, `Glob` for the slot accounting.  The flat
`Inv` is the form the C16 theorems project from.
-/
namespace Snowflake.ProxySlots
open Snowflake.TotalMap

theorem load_dvd (c : Int) : (8 : Int) ∣ load c :=
  Int.dvd_mul_left _ _

theorem load_le (c : Int) (h : 0 ≤ c) : load c ≤ c := by
  unfold load
  rw [Int.tdiv_eq_ediv_of_nonneg h]
  omega

theorem load_nat (n : Nat) : load (n : Int) = (loadNat n : Int) := by
  unfold load loadNat
  simp

/-- stages at which the `OnDataChannel` callback is installed -/
def Stage.hasPC : Stage → Bool
  | .poll => false | .parseURL => false | .checkRelay => false | .makePC => true | .sendAnswer => true

/-- program points of `runSession` at which the callback is or has been installed (`returned` is both
`late` and `early`: `cb` tells which; `inRet` is neither: it does not occur, `noInRetL`) -/
def LPC.late : LPC → Bool
  | .absent => false | .acquiring => false | .stage k => k.hasPC | .waiting => true
  | .exiting e => e.guarded | .inRet => false | .returned => true

def LPC.early : LPC → Bool
  | .absent => true | .acquiring => true | .stage k => !k.hasPC | .waiting => false
  | .exiting e => !e.guarded | .inRet => false | .returned => true

/-- 1 while the poll loop is blocked inside `tokens.get()` (counter incremented, no slot yet) -/
def acqOf (s : St) : Nat :=
  match s.cur with
  | some i => if (s.ss i).lp = .acquiring then 1 else 0
  | none => 0

theorem acqOf_le_one (s : St) : acqOf s ≤ 1 := by
  unfold acqOf
  split
  · split <;> omega
  · omega

theorem acqOf_eq_zero {s : St} (h : ∀ i, s.cur = some i → (s.ss i).lp ≠ .acquiring) : acqOf s = 0 := by
  unfold acqOf
  split
  · next i hc => simp [h i hc]
  · rfl

structure Inv (N : Nat) (s : St) : Prop where
  unarmedOnce : ∀ i, (s.ss i).cb = .unarmed → (s.ss i).once = false
  unarmedH : ∀ i, (s.ss i).cb = .unarmed → (s.ss i).h = .none
  unarmedRets : ∀ i, (s.ss i).cb = .unarmed → (s.ss i).rets = (if (s.ss i).lp = .returned then 1 else 0)
  armedRets : ∀ i, (s.ss i).cb ≠ .unarmed → (s.ss i).rets = (if (s.ss i).once then 1 else 0)
  armedLp : ∀ i, (s.ss i).cb ≠ .unarmed → (s.ss i).lp.late = true
  earlyLp : ∀ i, (s.ss i).cb = .unarmed → (s.ss i).lp.early = true
  hFired : ∀ i, (s.ss i).h ≠ .none → (s.ss i).cb = .fired
  firedH : ∀ i, (s.ss i).cb = .fired → (s.ss i).h ≠ .none
  hDone : ∀ i, (s.ss i).h = .done → (s.ss i).once = true
  noInRetL : ∀ i, (s.ss i).lp ≠ .inRet
  noInRetH : ∀ i, (s.ss i).h ≠ .inRet
  /-- returned with a peer connection and the `Once` unconsumed: `runSession` left by the data arm, and
  the handler still owes the release -/
  retNoOnce : ∀ i, (s.ss i).lp = .returned → (s.ss i).cb ≠ .unarmed → (s.ss i).once = false →
      (s.ss i).cb = .fired ∧ ((s.ss i).h = .running ∨ (s.ss i).h = .exiting)
  heldIff : ∀ i, i ∈ s.held ↔ ((s.ss i).lp ≠ .absent ∧ (s.ss i).lp ≠ .acquiring ∧ (s.ss i).rets = 0)
  nodup : s.held.Nodup
  chan0 : N = 0 → s.chLen = 0
  chanN : N ≠ 0 → s.chLen = s.held.length
  cap : N ≠ 0 → s.chLen ≤ N
  clients : s.clients = (s.held.length : Int) + (acqOf s : Int)
  curOf : ∀ i, (s.ss i).lp ≠ .absent → (s.ss i).lp ≠ .returned → s.cur = some i
  polls : ∀ x ∈ s.polls, (8 : Int) ∣ x.1 ∧ x.1 ≤ (x.2 : Int)

structure Sess.Ok (x : Sess) : Prop where
  unarmedOnce : x.cb = .unarmed → x.once = false
  unarmedH : x.cb = .unarmed → x.h = .none
  unarmedRets : x.cb = .unarmed → x.rets = (if x.lp = .returned then 1 else 0)
  armedRets : x.cb ≠ .unarmed → x.rets = (if x.once then 1 else 0)
  armedLp : x.cb ≠ .unarmed → x.lp.late = true
  earlyLp : x.cb = .unarmed → x.lp.early = true
  hFired : x.h ≠ .none → x.cb = .fired
  firedH : x.cb = .fired → x.h ≠ .none
  hDone : x.h = .done → x.once = true
  noInRetL : x.lp ≠ .inRet
  noInRetH : x.h ≠ .inRet
  retNoOnce : x.lp = .returned → x.cb ≠ .unarmed → x.once = false →
      x.cb = .fired ∧ (x.h = .running ∨ x.h = .exiting)

structure Glob (N : Nat) (s : St) : Prop where
  heldIff : ∀ i, i ∈ s.held ↔ ((s.ss i).lp ≠ .absent ∧ (s.ss i).lp ≠ .acquiring ∧ (s.ss i).rets = 0)
  nodup : s.held.Nodup
  chan0 : N = 0 → s.chLen = 0
  chanN : N ≠ 0 → s.chLen = s.held.length
  cap : N ≠ 0 → s.chLen ≤ N
  clients : s.clients = (s.held.length : Int) + (acqOf s : Int)
  curOf : ∀ i, (s.ss i).lp ≠ .absent → (s.ss i).lp ≠ .returned → s.cur = some i
  polls : ∀ x ∈ s.polls, (8 : Int) ∣ x.1 ∧ x.1 ≤ (x.2 : Int)

theorem inv_iff {N s} : Inv N s ↔ (∀ i, (s.ss i).Ok) ∧ Glob N s :=
  ⟨fun hi => ⟨fun i => ⟨hi.unarmedOnce i, hi.unarmedH i, hi.unarmedRets i, hi.armedRets i, hi.armedLp i,
      hi.earlyLp i, hi.hFired i, hi.firedH i, hi.hDone i, hi.noInRetL i, hi.noInRetH i, hi.retNoOnce i⟩,
      ⟨hi.heldIff, hi.nodup, hi.chan0, hi.chanN, hi.cap, hi.clients, hi.curOf, hi.polls⟩⟩,
   fun ⟨ok, g⟩ => ⟨fun i => (ok i).unarmedOnce, fun i => (ok i).unarmedH, fun i => (ok i).unarmedRets,
      fun i => (ok i).armedRets, fun i => (ok i).armedLp, fun i => (ok i).earlyLp, fun i => (ok i).hFired,
      fun i => (ok i).firedH, fun i => (ok i).hDone, fun i => (ok i).noInRetL, fun i => (ok i).noInRetH,
      fun i => (ok i).retNoOnce, g.heldIff, g.nodup, g.chan0, g.chanN, g.cap, g.clients, g.curOf, g.polls⟩⟩

theorem inv_init (N : Nat) : Inv N init := by
  constructor <;> simp [init, Sess.init, LPC.early, acqOf]

section Glob
variable {N : Nat} {s : St} {i : Nat} {x : Sess}
attribute [local grind] Glob acqOf upd

theorem Glob.setSess (g : Glob N s) (hr : x.rets = (s.ss i).rets)
    (hl : (x.lp = .absent ↔ (s.ss i).lp = .absent) ∧ (x.lp = .acquiring ↔ (s.ss i).lp = .acquiring) ∧
      (x.lp = .returned ↔ (s.ss i).lp = .returned)) : Glob N { s with ss := upd s.ss i x } := by
  refine ⟨?_, g.nodup, g.chan0, g.chanN, g.cap, ?_, ?_, g.polls⟩ <;> grind

theorem Glob.start (g : Glob N s) (hc : s.cur = none) (hl : (s.ss i).lp = .absent) (hx : x.lp = .acquiring) :
    Glob N { s with cur := some i, clients := s.clients + 1, ss := upd s.ss i x } := by
  grind

theorem Glob.acquire (g : Glob N s) (hl : (s.ss i).lp = .acquiring) (hN : N = 0 ∨ s.chLen < N)
    (hx : x.lp ≠ .absent ∧ x.lp ≠ .acquiring) (hr : x.rets = 0) :
    Glob N { s with chLen := if N = 0 then 0 else s.chLen + 1, held := i :: s.held, ss := upd s.ss i x } := by
  grind

theorem Glob.poll (g : Glob N s) (hl : (s.ss i).lp = .stage .poll) :
    Glob N { s with polls := (load s.clients, s.held.length) :: s.polls } := by
  have := load_le s.clients
  have := load_dvd s.clients
  refine ⟨g.heldIff, g.nodup, g.chan0, g.chanN, g.cap, g.clients, g.curOf, ?_⟩
  grind

theorem Glob.returned (g : Glob N s) (hl : (s.ss i).lp ≠ .absent ∧ (s.ss i).lp ≠ .acquiring ∧ (s.ss i).lp ≠ .returned)
    (hx : x.lp = .returned) (hr : x.rets = (s.ss i).rets) :
    Glob N { s with cur := none, ss := upd s.ss i x } := by
  grind

theorem Glob.chLen_pos (g : Glob N s) (hm : i ∈ s.held) : N = 0 ∨ s.chLen > 0 := by
  grind

/-- The first `tokens.ret()` of a slot holder: by its handler, or on an exit path of `runSession`. -/
theorem Glob.release (g : Glob N s) (hm : i ∈ s.held) (hr : x.rets ≠ 0) {c : Option Nat}
    (hc : c = s.cur ∧ x.lp = (s.ss i).lp ∨ c = none ∧ x.lp = .returned ∧ (s.ss i).lp ≠ .returned) :
    Glob N { s with cur := c, clients := s.clients - 1, held := s.held.erase i,
                    chLen := if N = 0 then s.chLen else s.chLen - 1, ss := upd s.ss i x } := by
  have e1 : ∀ j, j ∈ s.held.erase i ↔ j ≠ i ∧ j ∈ s.held := fun j => g.nodup.mem_erase_iff
  have e3 := List.length_erase_of_mem hm
  grind

end Glob

theorem doRet_eq (N : Nat) (s : St) (i : Nat) (h : N = 0 ∨ s.chLen > 0) :
    doRet N s i = ({ s with clients := s.clients - 1, ss := upd s.ss i { (s.ss i) with rets := (s.ss i).rets + 1 },
                            held := s.held.erase i, chLen := if N = 0 then s.chLen else s.chLen - 1 }, false) := by
  unfold doRet
  by_cases hN : N = 0
  · simp [hN]
  · simp [hN, h.resolve_left hN]

theorem step_lRelease {N : Nat} {s : St} {i : Nat} {e : Exit} (he : (s.ss i).lp = .exiting e)
    (hg : ¬(e.guarded = true ∧ (s.ss i).once = true)) (h : N = 0 ∨ s.chLen > 0) :
    step true N s (.lRelease i) = some { s with
      cur := none, clients := s.clients - 1, held := s.held.erase i,
      chLen := if N = 0 then s.chLen else s.chLen - 1,
      ss := upd s.ss i { (s.ss i) with lp := .returned, once := e.guarded || (s.ss i).once,
                                       rets := (s.ss i).rets + 1 } } := by
  simp only [step, he, true_and, hg, if_false]
  -- with or without the `Once` being consumed first
  split
  all_goals
    rw [doRet_eq]
    · simp_all [upd_upd]
    · exact h

theorem step_hRelease {N : Nat} {s : St} {i : Nat} (hh : (s.ss i).h = .exiting)
    (ho : (s.ss i).once = false) (h : N = 0 ∨ s.chLen > 0) :
    step true N s (.hRelease i) = some { s with
      clients := s.clients - 1, held := s.held.erase i,
      chLen := if N = 0 then s.chLen else s.chLen - 1,
      ss := upd s.ss i { (s.ss i) with h := .done, once := true, rets := (s.ss i).rets + 1 } } := by
  simp only [step, hh, true_and, ho, if_true]
  rw [doRet_eq]
  · simp [upd_upd]
  · exact h

/-! Per label: the session concerned stays `Ok` (a finite check, left to `grind`), and the accounting
moves by one of the `Glob` lemmas. -/

theorem Exit.guarded_failed (k : Stage) : (Exit.failed k).guarded = k.hasPC := by cases k <;> rfl

attribute [local grind] Sess.Ok LPC.late LPC.early Stage.hasPC Stage.next Exit.guarded
attribute [local grind =] Exit.guarded_failed
attribute [local grind cases] Stage

theorem inv_step (N : Nat) (s s' : St) (l : Lab) (hi : Inv N s) (hs : step true N s l = some s') : Inv N s' := by
  obtain ⟨ok, g⟩ := inv_iff.1 hi
  have hs' := hs
  cases l with simp only [step] at hs
  | lStart i =>
    split at hs <;> cases hs
    next h => exact inv_iff.2 ⟨forall_upd ok (by grind [ok i]), g.start h.1 h.2 rfl⟩
  | lAcquire i =>
    split at hs <;> cases hs
    next h => exact inv_iff.2 ⟨forall_upd ok (by grind [ok i]), g.acquire h.1 h.2 (by simp) (by grind [ok i])⟩
  | lPoll i =>
    split at hs <;> cases hs
    next h => exact inv_iff.2 ⟨ok, g.poll h⟩
  | lOk i | lFail i | lTimeout i | cbFire i | cbDead i | hEnd i =>
    -- one session moves; the accounting does not see it
    repeat' split at hs
    all_goals cases hs
    all_goals exact inv_iff.2 ⟨forall_upd ok (by grind [ok i]), g.setSess rfl (by simp [*])⟩
  | lData i =>
    split at hs <;> cases hs
    next h =>
      -- a handler that exists is running or exiting, or has consumed the `Once`
      exact inv_iff.2 ⟨forall_upd ok (by cases hh : (s.ss i).h <;> grind [ok i]), g.returned (by simp [h.1]) rfl rfl⟩
  | lRelease i =>
    split at hs
    · next e he =>
      split at hs
      · cases hs
        exact inv_iff.2 ⟨forall_upd ok (by grind [ok i]), g.returned (by simp [he]) rfl rfl⟩
      · next h =>
        -- the `Once` is still there, so the session holds its slot
        have hg : ¬(e.guarded = true ∧ (s.ss i).once = true) := by simpa using h
        have hm : i ∈ s.held := (g.heldIff i).2 (by grind [ok i])
        rw [step_lRelease he hg (g.chLen_pos hm)] at hs'; cases hs'
        exact inv_iff.2 ⟨forall_upd ok (by grind [ok i]), g.release hm (by simp) (.inr ⟨rfl, rfl, by simp [he]⟩)⟩
    · cases hs
  | hRelease i =>
    split at hs
    · next hh =>
      split at hs
      · cases hs
        exact inv_iff.2 ⟨forall_upd ok (by grind [ok i]), g.setSess rfl (by simp)⟩
      · next h =>
        have ho : (s.ss i).once = false := by simpa using h
        have hm : i ∈ s.held := (g.heldIff i).2 (by grind [ok i])
        rw [step_hRelease hh ho (g.chLen_pos hm)] at hs'; cases hs'
        exact inv_iff.2 ⟨forall_upd ok (by grind [ok i]), g.release hm (by simp) (.inl ⟨rfl, rfl⟩)⟩
    · cases hs
  | lRetRecv i | hRetRecv i =>
    -- never enabled: no `tokens.ret()` blocks
    grind [ok i]

theorem inv_reachable {N : Nat} {s : St} (h : Reachable true N s) : Inv N s :=
  Reach.inv (Inv N) (inv_init N) (fun s l s' _ hi hs => inv_step N s s' l hi hs) h

end Snowflake.ProxySlots
