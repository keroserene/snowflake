import Snowflake.Base.Heap
import Snowflake.Base.TotalMap
/-!
Go's `container/heap` on arrays: each of its two loops restores the heap order from "a heap but for the key at
one position" (`HeapF (upd K p v)`), and every function of heap.go is such a loop around a hook.  Implementations
with bookkeeping in their hooks (`idxI`, `clientMapInner`) are covered once, through `Refines`.
-/
namespace Snowflake.Heap
open TotalMap (upd upd_same upd_ne upd_upd upd_apply upd_eq_self)
variable {α : Type} (key : α → Int)

theorem getElem?_swapIfInBounds {β : Type} {a : Array β} {i j k : Nat} (hi : i < a.size) (hj : j < a.size) :
    (a.swapIfInBounds i j)[k]? = if k = i then a[j]? else if k = j then a[i]? else a[k]? := by
  grind

theorem getElem?_swapIfInBounds_of_ne (a : Array α) {i j : Nat} (k : Nat) (hi : k ≠ i) (hj : k ≠ j) :
    (a.swapIfInBounds i j)[k]? = a[k]? := by
  grind

theorem swapIfInBounds_self (a : Array α) (i : Nat) : a.swapIfInBounds i i = a := by
  apply Array.ext_getElem?
  grind

theorem swapIfInBounds_perm (a : Array α) {i j : Nat} : (a.swapIfInBounds i j).Perm a := by
  simp only [Array.swapIfInBounds_def]
  split
  · split
    · exact Array.swap_perm _ _
    · exact Array.Perm.refl _
  · exact Array.Perm.refl _

theorem parent_lt {c : Nat} (h : 0 < c) : parent c < c := by unfold parent; omega

theorem keyAt_lt (a : Array α) (i : Nat) (h : i < a.size) : keyAt key a i = key a[i] := by
  simp [keyAt, h]

theorem keyAt_congr (a b : Array α) (k : Nat) (h : a[k]? = b[k]?) : keyAt key a k = keyAt key b k := by
  unfold keyAt; rw [h]

theorem keyAt_push_lt (a : Array α) (x : α) (k : Nat) (h : k < a.size) :
    keyAt key (a.push x) k = keyAt key a k := by
  apply keyAt_congr; rw [Array.getElem?_push_lt h]; simp [h]

theorem keyAt_pop_lt (a : Array α) (k : Nat) (h : k < a.size - 1) :
    keyAt key a.pop k = keyAt key a k := by
  apply keyAt_congr; rw [Array.getElem?_pop]; simp [h]

theorem keyAt_set_ne (b : Array α) (i k : Nat) (x : α) (hi : i < b.size) (hk : k ≠ i) :
    keyAt key (b.set i x hi) k = keyAt key b k := by
  apply keyAt_congr
  rw [Array.getElem?_set]
  simp [Ne.symm hk]

theorem keyAt_swap (a : Array α) (i j k : Nat) (hi : i < a.size) (hj : j < a.size) :
    keyAt key (a.swapIfInBounds i j) k =
      if k = i then keyAt key a j else if k = j then keyAt key a i else keyAt key a k := by
  unfold keyAt
  rw [getElem?_swapIfInBounds hi hj]
  by_cases h1 : k = i
  · simp only [h1, if_true]
  · by_cases h2 : k = j
    · subst h2; simp only [h1, if_true, if_false]
    · simp only [h1, h2, if_false]

def Ok (a : Array α) (c : Nat) : Prop := keyAt key a (parent c) ≤ keyAt key a c

def IsHeapN (a : Array α) (n : Nat) : Prop := ∀ c, 0 < c → c < n → Ok key a c

def IsHeap (a : Array α) : Prop := IsHeapN key a a.size

theorem IsHeapN.congr {a b : Array α} {n : Nat} (h : IsHeapN key b n)
    (hk : ∀ k, k < n → keyAt key a k = keyAt key b k) : IsHeapN key a n := by
  intro c hc0 hcn
  have hp := parent_lt hc0
  unfold Ok
  rw [hk c hcn, hk _ (by omega)]
  exact h c hc0 hcn

theorem root_min (a : Array α) (h : IsHeap key a) (hne : 0 < a.size) : ∀ x ∈ a, key a[0] ≤ key x := by
  have hk : ∀ k, k < a.size → keyAt key a 0 ≤ keyAt key a k := by
    intro k
    induction k using Nat.strongRecOn with
    | _ k ih =>
      intro hk
      by_cases h0 : k = 0
      · subst h0; exact Int.le_refl _
      · have hp := parent_lt (Nat.pos_of_ne_zero h0)
        have := ih (parent k) hp (by omega)
        have := h k (by omega) hk
        unfold Ok at this
        omega
  intro x hx
  obtain ⟨k, hk', rfl⟩ := Array.mem_iff_getElem.mp hx
  have := hk k hk'
  rwa [keyAt_lt key a 0 hne, keyAt_lt key a k hk'] at this

theorem less_iff (a : Array α) (i j : Nat) :
    (arrI key).less a i j = true ↔ keyAt key a i < keyAt key a j := by
  simp [arrI]

theorem arrI_len (a : Array α) : (arrI key).len a = a.size := rfl
theorem arrI_swap (a : Array α) (i j : Nat) : (arrI key).swap a i j = a.swapIfInBounds i j := rfl
theorem arrI_push (a : Array α) (x : α) : (arrI key).push a x = a.push x := rfl
theorem arrI_pop (a : Array α) : (arrI key).pop a = (a.pop, a.back?) := rfl

/-- Both loops keep `HeapF (upd K p v) n lo` for the keys `K` of the array and the position `p` they are at: a
heap but for the key at `p`, which `up` finds too small (`K p ≤ v`) and `down` too large (`v ≤ K p`).  `lo` bounds
the parents looked at: `Init` works upwards from the last parent. -/
def HeapF (K : Nat → Int) (n lo : Nat) : Prop := ∀ c, 0 < c → c < n → lo ≤ parent c → K (parent c) ≤ K c

theorem isHeapN_iff (a : Array α) (n : Nat) : IsHeapN key a n ↔ HeapF (keyAt key a) n 0 :=
  ⟨fun h c hc0 hcn _ => h c hc0 hcn, fun h c hc0 hcn => h c hc0 hcn (Nat.zero_le _)⟩

section HeapF
variable {K : Nat → Int} {n lo p : Nat} {v w : Int}

theorem HeapF.parent_le (h : HeapF (upd K p v) n lo) (hp0 : 0 < p) (hpn : p < n) (hlo : lo ≤ parent p) :
    K (parent p) ≤ v := by
  have := h p hp0 hpn hlo
  rwa [upd_same, upd_ne _ _ _ _ (Nat.ne_of_lt (parent_lt hp0))] at this

theorem HeapF.le_child (h : HeapF (upd K p v) n lo) (hlo : lo ≤ p) {c : Nat} (hc0 : 0 < c) (hcn : c < n)
    (hp : parent c = p) : v ≤ K c := by
  have := h c hc0 hcn (hp ▸ hlo)
  rwa [hp, upd_same, upd_ne _ _ _ _ (by have := parent_lt hc0; omega)] at this

theorem HeapF.replace (h : HeapF (upd K p v) n lo)
    (hpar : 0 < p → p < n → lo ≤ parent p → K (parent p) ≤ w)
    (hch : ∀ c, 0 < c → c < n → parent c = p → w ≤ K c) : HeapF (upd K p w) n lo := by
  intro c hc0 hcn hlo
  have hpc := parent_lt hc0
  by_cases h1 : c = p
  · subst h1
    rw [upd_same, upd_ne _ _ _ _ (Nat.ne_of_lt hpc)]
    exact hpar hc0 hcn hlo
  · rw [upd_ne _ _ _ c h1]
    by_cases h2 : parent c = p
    · rw [h2, upd_same]
      exact hch c hc0 hcn h2
    · rw [upd_ne _ _ _ _ h2]
      have := h c hc0 hcn hlo
      rwa [upd_ne _ _ _ _ h2, upd_ne _ _ _ c h1] at this

end HeapF

/-- a swap moves the doubtful position from `i` to `j`… -/
theorem upd_keyAt_swap_right {a : Array α} {i j : Nat} (hi : i < a.size) (hj : j < a.size) :
    upd (keyAt key (a.swapIfInBounds i j)) j (keyAt key a j) = upd (keyAt key a) i (keyAt key a j) := by
  funext x
  rw [upd_apply, upd_apply, keyAt_swap key a i j x hi hj]
  by_cases h1 : x = j
  · simp [h1]
  · simp [h1]

/-- … or from `j` to `i`. -/
theorem upd_keyAt_swap_left {a : Array α} {i j : Nat} (hi : i < a.size) (hj : j < a.size) :
    upd (keyAt key (a.swapIfInBounds i j)) i (keyAt key a i) = upd (keyAt key a) j (keyAt key a i) := by
  funext x
  rw [upd_apply, upd_apply, keyAt_swap key a i j x hi hj]
  by_cases h1 : x = i
  · simp [h1]
  · simp [h1]

/-- Stated for a `j` equal to `minChild …`, so that it applies to the `let`-bound `j` of `downLoop`. -/
theorem minChild_spec (a : Array α) (n i : Nat) (h : 2 * i + 1 < n) {j : Nat}
    (hj : minChild (arrI key) a n i = j) :
    (j = 2 * i + 1 ∨ j = 2 * i + 2) ∧ j < n
    ∧ ∀ c, 0 < c → c < n → parent c = i → keyAt key a j ≤ keyAt key a c := by
  subst hj
  have hch : ∀ c, 0 < c → parent c = i → c = 2 * i + 1 ∨ c = 2 * i + 1 + 1 := by
    intro c hc0 hp; unfold parent at hp; omega
  unfold minChild
  simp only [Bool.and_eq_true, decide_eq_true_eq, less_iff]
  split
  · rename_i hc
    refine ⟨Or.inr rfl, hc.1, fun c hc0 _ hp => ?_⟩
    rcases hch c hc0 hp with rfl | rfl <;> omega
  · rename_i hc
    refine ⟨Or.inl rfl, h, fun c hc0 hcn hp => ?_⟩
    rcases hch c hc0 hp with rfl | rfl
    · exact Int.le_refl _
    · have : ¬ keyAt key a (2 * i + 1 + 1) < keyAt key a (2 * i + 1) := fun hh => hc ⟨hcn, hh⟩
      omega

/-- Result `r`, final position `fi` of `down(i)` on `a`, a heap but for the key at `i` (where `v` would fit).  When
nothing moved, `Fix`/`Remove` go on with `up(i)`. -/
structure DownRes (a r : Array α) (n lo i fi : Nat) (v : Int) : Prop where
  ge : i ≤ fi
  same : fi = i → r = a
  heap : v ≤ keyAt key a i ∨ i < fi → HeapF (keyAt key r) n lo

theorem down_stop {a : Array α} {n lo i : Nat} {v : Int} (h : HeapF (upd (keyAt key a) i v) n lo)
    (hch : ∀ c, 0 < c → c < n → parent c = i → keyAt key a i ≤ keyAt key a c) :
    DownRes key a a n lo i i v := by
  refine ⟨Nat.le_refl _, fun _ => rfl, fun hv => ?_⟩
  have hv : v ≤ keyAt key a i := hv.resolve_right (Nat.lt_irrefl _)
  have := h.replace (fun h1 h2 h3 => Int.le_trans (h.parent_le h1 h2 h3) hv) hch
  rwa [upd_eq_self] at this

theorem downLoop_spec (n lo : Nat) (fuel : Nat) (a : Array α) (i : Nat) : ∀ v : Int,
    n ≤ fuel + i → n ≤ a.size → lo ≤ i → HeapF (upd (keyAt key a) i v) n lo →
    DownRes key a (downLoop (arrI key) n fuel a i).1 n lo i (downLoop (arrI key) n fuel a i).2 v := by
  fun_induction downLoop (arrI key) n fuel a i with
  | case1 | case2 =>
    intro v hf hn hlo h
    exact down_stop key h fun c hc0 hcn hp => by unfold parent at hp; omega
  | case3 fuel a i hj1 j hnl =>
    intro v hf hn hlo h
    obtain ⟨-, -, hmin⟩ := minChild_spec key a n i (by omega) (j := j) rfl
    have hge : ¬ keyAt key a j < keyAt key a i := by
      rw [← less_iff]; simpa using hnl
    exact down_stop key h fun c hc0 hcn hp => by have := hmin c hc0 hcn hp; omega
  | case4 fuel a i hj1 j hl ih =>
    intro v hf hn hlo h
    obtain ⟨hjv, hjn, hmin⟩ := minChild_spec key a n i (by omega) (j := j) rfl
    have hlt : keyAt key a j < keyAt key a i := by
      rw [← less_iff]; simpa using hl
    have hi : i < a.size := by omega
    have hj : j < a.size := by omega
    have hpj : parent j = i := by unfold parent; omega
    -- the smaller child's key fits at `i`; after the swap the doubtful key is at `j`
    have h' := h.replace (w := keyAt key a j)
      (fun h1 h2 h3 => Int.le_trans (h.parent_le h1 h2 h3) (h.le_child hlo (by omega) hjn hpj)) hmin
    rw [← upd_keyAt_swap_right key hi hj] at h'
    have r := ih (keyAt key a j) (by omega) (by simpa [arrI] using hn) (by omega) h'
    have := r.ge
    refine ⟨by omega, fun hh => by omega, fun _ => r.heap (Or.inl ?_)⟩
    rw [arrI_swap, keyAt_swap key a i j j hi hj]
    simp only [if_true]
    split <;> omega

theorem downLoop_perm_frame (n : Nat) (fuel : Nat) (a : Array α) (i : Nat) :
    (downLoop (arrI key) n fuel a i).1.Perm a
    ∧ ∀ k, n ≤ k → (downLoop (arrI key) n fuel a i).1[k]? = a[k]? := by
  fun_induction downLoop (arrI key) n fuel a i with
  | case1 | case2 | case3 => exact ⟨Array.Perm.refl _, fun _ _ => rfl⟩
  | case4 fuel a i hj1 j hl ih =>
    obtain ⟨p, f⟩ := ih
    obtain ⟨-, hjn, -⟩ := minChild_spec key a n i (by omega) (j := j) rfl
    refine ⟨p.trans (swapIfInBounds_perm a), fun k hk => ?_⟩
    rw [f k hk]
    exact getElem?_swapIfInBounds_of_ne a k (by omega) (by omega)

theorem upLoop_spec (n : Nat) (fuel : Nat) (a : Array α) (j : Nat) : ∀ v : Int,
    j < fuel → j < n → n ≤ a.size → keyAt key a j ≤ v → HeapF (upd (keyAt key a) j v) n 0 →
    IsHeapN key (upLoop (arrI key) fuel a j) n := by
  fun_induction upLoop (arrI key) fuel a j with
  | case1 a j => omega
  | case2 fuel a j i hc =>
    intro v hf hjn hn hv h
    simp only [i, Bool.or_eq_true, beq_iff_eq, Bool.not_eq_true', ← Bool.not_eq_true, less_iff] at hc
    have := h.replace (w := keyAt key a j)
      (fun h1 _ _ => by have := parent_lt h1; omega)
      (fun c hc0 hcn hp => Int.le_trans hv (h.le_child (Nat.zero_le _) hc0 hcn hp))
    rw [upd_eq_self] at this
    exact (isHeapN_iff key a n).2 this
  | case3 fuel a j i hc ih =>
    intro v hf hjn hn hv h
    simp only [i, Bool.or_eq_true, beq_iff_eq, Bool.not_eq_true', not_or, Bool.not_eq_false, less_iff] at hc
    obtain ⟨hpne, hlt⟩ := hc
    have hj0 : 0 < j := by unfold parent at hpne; omega
    have hpj := parent_lt hj0
    have hp : parent j < a.size := by omega
    have hj : j < a.size := by omega
    -- the parent's key fits at `j`; after the swap the doubtful key is at `parent j`
    have hpv := h.parent_le hj0 hjn (Nat.zero_le _)
    have h' := h.replace (w := keyAt key a (parent j)) (fun _ _ _ => Int.le_refl _)
      (fun c hc0 hcn hp => Int.le_trans hpv (h.le_child (Nat.zero_le _) hc0 hcn hp))
    rw [← upd_keyAt_swap_left key hp hj] at h'
    refine ih (keyAt key a (parent j)) (by omega) (by omega) (by simpa [arrI] using hn) ?_ h'
    rw [arrI_swap, keyAt_swap key a (parent j) j (parent j) hp hj]
    simp only [if_true]
    omega

theorem upLoop_perm_frame (fuel : Nat) (a : Array α) (j : Nat) :
    (upLoop (arrI key) fuel a j).Perm a ∧ ∀ k, j < k → (upLoop (arrI key) fuel a j)[k]? = a[k]? := by
  fun_induction upLoop (arrI key) fuel a j with
  | case1 | case2 => exact ⟨Array.Perm.refl _, fun _ _ => rfl⟩
  | case3 fuel a j i hc ih =>
    obtain ⟨p, f⟩ := ih
    have hp : i ≤ j := by unfold i parent; omega
    refine ⟨p.trans (swapIfInBounds_perm a), fun k hk => ?_⟩
    rw [f k (by omega)]
    exact getElem?_swapIfInBounds_of_ne a k (by omega) (by omega)

theorem push_eq (a : Array α) (x : α) :
    push (arrI key) a x = upLoop (arrI key) (a.size + 1) (a.push x) a.size := by
  simp [push, up, arrI]

theorem push_spec (a : Array α) (x : α) (h : IsHeap key a) :
    IsHeap key (push (arrI key) a x) ∧ (push (arrI key) a x).Perm (a.push x) := by
  rw [push_eq]
  have p := (upLoop_perm_frame key (a.size + 1) (a.push x) a.size).1
  refine ⟨?_, p⟩
  unfold IsHeap
  rw [p.size_eq, Array.size_push]
  -- raised to its parent's key if need be, the new last key completes a heap
  refine upLoop_spec key _ _ _ _ _ (by omega) (by omega) (by simp) (Int.le_max_left _ (keyAt key (a.push x) (parent a.size))) ?_
  intro c hc0 hcn _
  have hpc := parent_lt hc0
  by_cases hc : c = a.size
  · subst hc
    rw [upd_same, upd_ne _ _ _ _ (by omega)]
    exact Int.le_max_right _ _
  · rw [upd_ne _ _ _ c hc, upd_ne _ _ _ _ (by omega), keyAt_push_lt key a x c (by omega),
      keyAt_push_lt key a x _ (by omega)]
    exact h c hc0 (by omega)

/-- the common tail of `Fix` and `Remove`: `if !down(h, i, n) { up(h, i) }` -/
def siftAt {σ : Type} (I : Iface σ α) (s : σ) (i n : Nat) : σ :=
  let d := down I s i n
  if !d.2 then up I d.1 i else d.1

theorem fix_eq {σ : Type} (I : Iface σ α) (s : σ) (i : Nat) : fix I s i = siftAt I s i (I.len s) := rfl

theorem pop_eq {σ : Type} (I : Iface σ α) (s : σ) : pop I s = I.pop (popPrep I s) := rfl

theorem removePrep_eq {σ : Type} (I : Iface σ α) (s : σ) (i : Nat) :
    removePrep I s i =
      if I.len s - 1 != i then siftAt I (I.swap s i (I.len s - 1)) i (I.len s - 1) else s := rfl

theorem heapF_of_agree {a : Array α} (b : Array α) {n : Nat} (i : Nat) (hb : IsHeapN key b n)
    (hk : ∀ k, k < n → k ≠ i → keyAt key a k = keyAt key b k) :
    HeapF (upd (keyAt key a) i (keyAt key b i)) n 0 := by
  have e : ∀ k, k < n → upd (keyAt key a) i (keyAt key b i) k = keyAt key b k := by
    intro k hkn
    rw [upd_apply]
    split
    · next h => rw [h]
    · next h => exact hk k hkn h
  intro c hc0 hcn _
  have hpc := parent_lt hc0
  rw [e c hcn, e _ (by omega)]
  exact hb c hc0 hcn

theorem siftAt_spec (a : Array α) (i n : Nat) {v : Int} (hin : i < n) (hn : n ≤ a.size)
    (h : HeapF (upd (keyAt key a) i v) n 0) :
    IsHeapN key (siftAt (arrI key) a i n) n
    ∧ (siftAt (arrI key) a i n).Perm a ∧ ∀ k, n ≤ k → (siftAt (arrI key) a i n)[k]? = a[k]? := by
  obtain ⟨hge, hsame, hheap⟩ := downLoop_spec key n 0 n a i v (by omega) hn (by omega) h
  obtain ⟨hpm, hfr⟩ := downLoop_perm_frame key n n a i
  unfold siftAt down
  generalize downLoop (arrI key) n n a i = d at *
  by_cases hm : i < d.2
  · simp only [hm, decide_true, Bool.not_true, Bool.false_eq_true, if_false]
    exact ⟨(isHeapN_iff key _ n).2 (hheap (Or.inr hm)), hpm, hfr⟩
  · have he : d.1 = a := hsame (by omega)
    simp only [hm, decide_false, Bool.not_false, if_true, he]
    rw [he] at hheap
    obtain ⟨upm, ufr⟩ := upLoop_perm_frame key (i + 1) a i
    refine ⟨?_, upm, fun k hk => ufr k (by omega)⟩
    -- nothing moved: either the key at `i` was not too large and `up` finishes, or `a` is a heap already
    by_cases hv : v ≤ keyAt key a i
    · exact upLoop_spec key n (i + 1) a i _ (by omega) hin hn (Int.le_refl _)
        (by rw [upd_eq_self]; exact hheap (Or.inl hv))
    · exact upLoop_spec key n (i + 1) a i v (by omega) hin hn (by omega) h

theorem fix_set (b : Array α) (i : Nat) (x : α) (hi : i < b.size) (h : IsHeap key b) :
    IsHeap key (fix (arrI key) (b.set i x hi) i) ∧ (fix (arrI key) (b.set i x hi) i).Perm (b.set i x hi) := by
  have e : fix (arrI key) (b.set i x hi) i = siftAt (arrI key) (b.set i x hi) i b.size := by
    rw [fix_eq, arrI_len, Array.size_set]
  rw [e]
  obtain ⟨r, p, -⟩ := siftAt_spec key (b.set i x hi) i b.size hi (by simp)
    (heapF_of_agree key b i h fun k _ hk => keyAt_set_ne key b i k x hi hk)
  exact ⟨by unfold IsHeap; rw [p.size_eq, Array.size_set]; exact r, p⟩

theorem eq_push_pop_of_back (a : Array α) (x : α) (h : a[a.size - 1]? = some x) : a = a.pop.push x := by
  rw [← Array.back?_eq_getElem?, Array.back?_eq_some_iff] at h
  obtain ⟨ys, rfl⟩ := h
  simp

theorem remove_spec (a : Array α) (i : Nat) (h : IsHeap key a) (hi : i < a.size) :
    (remove (arrI key) a i).2 = some a[i]
    ∧ IsHeap key (remove (arrI key) a i).1
    ∧ a.Perm ((remove (arrI key) a i).1.push a[i]) := by
  have hn : a.size - 1 < a.size := by omega
  -- before the final `Pop` hook: the old `a[i]` is in the last cell, the cells before it are a heap
  obtain ⟨a2, e, pp, pb, ph⟩ : ∃ a2, removePrep (arrI key) a i = a2 ∧ a2.Perm a
      ∧ a2[a.size - 1]? = some a[i] ∧ IsHeapN key a2 (a.size - 1) := by
    by_cases hni : a.size - 1 = i
    · exact ⟨a, by simp [removePrep_eq, arrI, hni], Array.Perm.refl _, by simp [hni, hi],
        fun c hc0 hcn => h c hc0 (by omega)⟩
    · obtain ⟨rh, rp, rf⟩ := siftAt_spec key (a.swapIfInBounds i (a.size - 1)) i (a.size - 1) (by omega)
        (by simp) (heapF_of_agree key a i (fun c hc0 hcn => h c hc0 (by omega)) fun k hk hki => by
          rw [keyAt_swap key a i _ k hi hn]; simp [hki, Nat.ne_of_lt hk])
      refine ⟨_, by simp [removePrep_eq, arrI, hni], rp.trans (swapIfInBounds_perm a), ?_, rh⟩
      rw [rf _ (Nat.le_refl _), getElem?_swapIfInBounds hi hn]
      simp [hni, hi]
  have hs : a2.size = a.size := pp.size_eq
  rw [show remove (arrI key) a i = (a2.pop, a2.back?) by rw [← e]; rfl]
  refine ⟨by rw [Array.back?_eq_getElem?, hs]; exact pb, ?_, ?_⟩
  · unfold IsHeap
    rw [Array.size_pop, hs]
    exact ph.congr key fun k hk => keyAt_pop_lt key a2 k (by omega)
  · rw [← eq_push_pop_of_back a2 a[i] (by rw [hs, pb])]
    exact pp.symm

/-- `up(0)` does nothing. -/
theorem pop_eq_remove (a : Array α) : pop (arrI key) a = remove (arrI key) a 0 := by
  have hu : ∀ b : Array α, up (arrI key) b 0 = b := fun _ => rfl
  unfold pop remove
  rw [removePrep_eq]
  simp only [popPrep, siftAt, hu, ite_self, arrI_len, arrI_swap]
  split
  · rfl
  · rename_i h0
    have h0 : a.size - 1 = 0 := by simpa using h0
    rw [h0, swapIfInBounds_self]
    rfl

theorem pop_spec (a : Array α) (h : IsHeap key a) (hne : 0 < a.size) :
    (pop (arrI key) a).2 = some a[0]
    ∧ IsHeap key (pop (arrI key) a).1
    ∧ a.Perm ((pop (arrI key) a).1.push a[0]) := by
  rw [pop_eq_remove]
  exact remove_spec key a 0 h hne

theorem initLoop_spec (n : Nat) : ∀ (k : Nat) (a : Array α), n ≤ a.size → HeapF (keyAt key a) n k →
    IsHeapN key (initLoop (arrI key) n k a) n ∧ (initLoop (arrI key) n k a).Perm a := by
  intro k
  induction k with
  | zero =>
    intro a _ h
    exact ⟨(isHeapN_iff key a n).2 h, Array.Perm.refl _⟩
  | succ k ih =>
    intro a hn h
    -- lowered below its children, the key at `k` completes a heap on the nodes from `k` on
    have hv : HeapF (upd (keyAt key a) k
        (min (keyAt key a k) (min (keyAt key a (2 * k + 1)) (keyAt key a (2 * k + 2))))) n k := by
      intro c hc0 hcn hl
      have hpc := parent_lt hc0
      rw [upd_ne _ _ _ c (by omega)]
      by_cases hp : parent c = k
      · rw [hp, upd_same]
        have hc : c = 2 * k + 1 ∨ c = 2 * k + 2 := by unfold parent at hp; omega
        rcases hc with rfl | rfl <;> omega
      · rw [upd_ne _ _ _ _ hp]
        exact h c hc0 hcn (by omega)
    obtain ⟨-, -, r⟩ := downLoop_spec key n k n a k _ (by omega) hn (Nat.le_refl _) hv
    have p := (downLoop_perm_frame key n n a k).1
    have q := ih (downLoop (arrI key) n n a k).1 (by rw [p.size_eq]; exact hn) (r (Or.inl (Int.min_le_left _ _)))
    exact ⟨q.1, q.2.trans p⟩

theorem init_spec (a : Array α) :
    IsHeap key (init (arrI key) a) ∧ (init (arrI key) a).Perm a := by
  obtain ⟨r, p⟩ := initLoop_spec key a.size (a.size / 2) a (Nat.le_refl _)
    fun c hc0 hcn hl => by unfold parent at hl; omega
  have e : init (arrI key) a = initLoop (arrI key) a.size (a.size / 2) a := rfl
  rw [e]
  exact ⟨by unfold IsHeap; rw [p.size_eq]; exact r, p⟩

/-! ## implementations of `heap.Interface` that refine the array instance -/

/-- `abs` gives the array an implementation state stands for, `Inv` is the implementation's own invariant (its
bookkeeping).  Only `Len`, `Less`, `Swap` are axiomatised: the `Push` and `Pop` hooks enter through the hypotheses
of `push_refines` and, for `idxI`, through `PopsLike`. -/
structure Refines {σ : Type} (I : Iface σ α) (abs : σ → Array α) (Inv : σ → Prop) : Prop where
  len : ∀ s, Inv s → I.len s = (abs s).size
  less : ∀ s i j, Inv s → i < (abs s).size → j < (abs s).size →
    I.less s i j = (arrI key).less (abs s) i j
  swap_abs : ∀ s i j, Inv s → i < (abs s).size → j < (abs s).size →
    abs (I.swap s i j) = (abs s).swapIfInBounds i j
  swap_inv : ∀ s i j, Inv s → i < (abs s).size → j < (abs s).size → Inv (I.swap s i j)

variable {σ : Type} {I : Iface σ α} {abs : σ → Array α} {Inv : σ → Prop}

theorem upLoop_refines (R : Refines key I abs Inv) : ∀ (fuel : Nat) (s : σ) (j : Nat),
    Inv s → j < (abs s).size →
    abs (upLoop I fuel s j) = upLoop (arrI key) fuel (abs s) j ∧ Inv (upLoop I fuel s j) := by
  intro fuel
  induction fuel with
  | zero => intro s j hi _; exact ⟨rfl, hi⟩
  | succ fuel ih =>
    intro s j hi hj
    have hp : parent j < (abs s).size := by unfold parent; omega
    simp only [upLoop]
    rw [R.less s j (parent j) hi hj hp]
    split
    · exact ⟨rfl, hi⟩
    · have e := R.swap_abs s (parent j) j hi hp hj
      have r := ih (I.swap s (parent j) j) (parent j) (R.swap_inv s _ _ hi hp hj) (by rw [e]; simpa using hp)
      rw [e] at r
      exact r

theorem minChild_refines (R : Refines key I abs Inv) (s : σ) (n i : Nat) (hi : Inv s)
    (hn : n ≤ (abs s).size) : minChild I s n i = minChild (arrI key) (abs s) n i := by
  simp only [minChild]
  by_cases h : 2 * i + 1 + 1 < n
  · rw [R.less s (2 * i + 1 + 1) (2 * i + 1) hi (by omega) (by omega)]
  · simp [h]

theorem downLoop_refines (R : Refines key I abs Inv) (n : Nat) (fuel : Nat) (s : σ) (i : Nat) :
    Inv s → n ≤ (abs s).size →
    abs (downLoop I n fuel s i).1 = (downLoop (arrI key) n fuel (abs s) i).1
    ∧ (downLoop I n fuel s i).2 = (downLoop (arrI key) n fuel (abs s) i).2
    ∧ Inv (downLoop I n fuel s i).1 := by
  induction fuel generalizing s i with
  | zero => intro hi _; exact ⟨rfl, rfl, hi⟩
  | succ fuel ih =>
    intro hi hn
    simp only [downLoop]
    split
    · exact ⟨rfl, rfl, hi⟩
    · rename_i hj1
      rw [minChild_refines key R s n i hi hn]
      obtain ⟨hjv, hjn, -⟩ := minChild_spec key (abs s) n i (by omega) rfl
      generalize minChild (arrI key) (abs s) n i = j at *
      rw [R.less s j i hi (by omega) (by omega)]
      split
      · exact ⟨rfl, rfl, hi⟩
      · have e := R.swap_abs s i j hi (by omega) (by omega)
        have r := ih (I.swap s i j) j (R.swap_inv s _ _ hi (by omega) (by omega)) (by rw [e]; simpa using hn)
        rw [e] at r
        exact r

theorem down_refines (R : Refines key I abs Inv) (s : σ) (i n : Nat) (hi : Inv s) (hn : n ≤ (abs s).size) :
    abs (down I s i n).1 = (down (arrI key) (abs s) i n).1
    ∧ (down I s i n).2 = (down (arrI key) (abs s) i n).2 ∧ Inv (down I s i n).1 := by
  have r := downLoop_refines key R n n s i hi hn
  simp only [down]
  exact ⟨r.1, by rw [r.2.1], r.2.2⟩

theorem siftAt_refines (R : Refines key I abs Inv) (s : σ) (i : Nat) {n : Nat} (hi : Inv s)
    (hin : i < n) (hn : n ≤ (abs s).size) :
    abs (siftAt I s i n) = siftAt (arrI key) (abs s) i n ∧ Inv (siftAt I s i n) := by
  obtain ⟨d1, d2, d3⟩ := down_refines key R s i n hi hn
  simp only [siftAt]
  rw [d2]
  split
  · rw [← d1]
    refine upLoop_refines key R _ _ i d3 ?_
    rw [d1]
    have := (downLoop_perm_frame key n n (abs s) i).1.size_eq
    simp only [down]; omega
  · exact ⟨d1, d3⟩

theorem fix_refines (R : Refines key I abs Inv) (s : σ) (i : Nat) (hi : Inv s) (hlt : i < (abs s).size) :
    abs (fix I s i) = fix (arrI key) (abs s) i ∧ Inv (fix I s i) := by
  rw [fix_eq, fix_eq, R.len s hi]
  exact siftAt_refines key R s i hi hlt (Nat.le_refl _)

theorem push_refines (R : Refines key I abs Inv) (s : σ) (x x' : α)
    (ha : abs (I.push s x) = (abs s).push x') (hi : Inv (I.push s x)) :
    abs (push I s x) = push (arrI key) (abs s) x' ∧ Inv (push I s x) := by
  simp only [push, arrI_len, arrI_push]
  rw [R.len _ hi, ← ha]
  exact upLoop_refines key R _ _ _ hi (by rw [ha]; simp)

theorem popPrep_refines (R : Refines key I abs Inv) (s : σ) (hi : Inv s) (hne : 0 < (abs s).size) :
    abs (popPrep I s) = popPrep (arrI key) (abs s) ∧ Inv (popPrep I s) := by
  have hn : (abs s).size - 1 < (abs s).size := by omega
  have e := R.swap_abs s 0 ((abs s).size - 1) hi hne hn
  have d := down_refines key R _ 0 ((abs s).size - 1) (R.swap_inv s 0 _ hi hne hn) (by rw [e]; simp)
  rw [e] at d
  simp only [popPrep, arrI_len, arrI_swap, R.len s hi]
  exact ⟨d.1, d.2.2⟩

theorem removePrep_refines (R : Refines key I abs Inv) (s : σ) (i : Nat) (hi : Inv s) (hlt : i < (abs s).size) :
    abs (removePrep I s i) = removePrep (arrI key) (abs s) i ∧ Inv (removePrep I s i) := by
  have hn : (abs s).size - 1 < (abs s).size := by omega
  rw [removePrep_eq, removePrep_eq, R.len s hi]
  simp only [arrI_len, arrI_swap]
  by_cases hni : ((abs s).size - 1 != i) = true
  · simp only [hni, if_true]
    rw [← R.swap_abs s i _ hi hlt hn]
    exact siftAt_refines key R _ i (R.swap_inv s i _ hi hlt hn) (by simp at hni; omega)
      (by rw [R.swap_abs s i _ hi hlt hn]; simp)
  · simp only [hni]
    exact ⟨rfl, hi⟩

/-! ## elements with an `index` field (the broker's `SnowflakeHeap`) -/

structure Indexed.Lawful (X : Indexed α) (key : α → Int) : Prop where
  get_set : ∀ x v, X.getIdx (X.setIdx x v) = v
  set_set : ∀ x u v, X.setIdx (X.setIdx x u) v = X.setIdx x v
  key_set : ∀ x v, key (X.setIdx x v) = key x

def IdxOk (X : Indexed α) (a : Array α) : Prop := ∀ i x, a[i]? = some x → X.getIdx x = some i

def eraseIdx (X : Indexed α) (a : Array α) : Array α := a.map (fun x => X.setIdx x none)

theorem keyAt_eraseIdx (X : Indexed α) (L : X.Lawful key) (a : Array α) (i : Nat) :
    keyAt key (eraseIdx X a) i = keyAt key a i := by
  unfold keyAt eraseIdx
  rw [Array.getElem?_map]
  cases a[i]? with
  | none => rfl
  | some x => simp [L.key_set]

theorem idx_refines (X : Indexed α) (L : X.Lawful key) :
    Refines key (idxI key X) (eraseIdx X) (IdxOk X) where
  len := fun s _ => by simp [idxI, eraseIdx]
  less := fun s i j _ _ _ => by
    simp only [idxI, arrI, keyAt_eraseIdx key X L]
  swap_abs := fun s i j _ hi hj => by
    simp only [eraseIdx, Array.size_map] at hi hj
    have h1 : s[i]? = some s[i] := by simp [hi]
    have h2 : s[j]? = some s[j] := by simp [hj]
    simp only [idxI, h1, h2, eraseIdx]
    apply Array.ext_getElem?
    intro k
    rw [getElem?_swapIfInBounds (by simpa using hi) (by simpa using hj)]
    simp only [Array.getElem?_map, Array.getElem?_setIfInBounds, Array.size_setIfInBounds]
    -- by cases `k = i`, `k = j`, neither; erasing an index just stored erases the old one
    have := L.set_set
    grind
  swap_inv := fun s i j h hi hj => by
    simp only [eraseIdx, Array.size_map] at hi hj
    have h1 : s[i]? = some s[i] := by simp [hi]
    have h2 : s[j]? = some s[j] := by simp [hj]
    simp only [idxI, h1, h2]
    intro k x hk
    simp only [Array.getElem?_setIfInBounds, Array.size_setIfInBounds] at hk
    -- the two cells written hold the index just stored
    have := L.get_set
    unfold IdxOk at h
    grind

theorem idx_fix (X : Indexed α) (L : X.Lawful key) (a : Array α) (i : Nat) (h : IdxOk X a) (hi : i < a.size) :
    IdxOk X (fix (idxI key X) a i)
    ∧ eraseIdx X (fix (idxI key X) a i) = fix (arrI key) (eraseIdx X a) i := by
  have r := fix_refines key (idx_refines key X L) a i h (by simpa [eraseIdx] using hi)
  exact ⟨r.2, r.1⟩

theorem idx_push (X : Indexed α) (L : X.Lawful key) (a : Array α) (x : α) (h : IdxOk X a) :
    IdxOk X (push (idxI key X) a x)
    ∧ eraseIdx X (push (idxI key X) a x) = push (arrI key) (eraseIdx X a) (X.setIdx x none) := by
  have hp : eraseIdx X ((idxI key X).push a x) = (eraseIdx X a).push (X.setIdx x none) := by
    simp [idxI, eraseIdx, L.set_set]
  have hi : IdxOk X ((idxI key X).push a x) := by
    intro k y hk
    simp only [idxI, Array.getElem?_push] at hk
    have := L.get_set
    unfold IdxOk at h
    grind
  have r := push_refines key (idx_refines key X L) a x (X.setIdx x none) hp hi
  exact ⟨r.2, r.1⟩

/-- The `Pop` hook of `idxI` (result `p`) against the plain one (result `q`); index `none` is Go's `-1`. -/
structure PopsLike (X : Indexed α) (p q : Array α × Option α) : Prop where
  idxOk : IdxOk X p.1
  removed : ∀ y, p.2 = some y → X.getIdx y = none
  fst : eraseIdx X p.1 = q.1
  snd : p.2.map (fun y => X.setIdx y none) = q.2

theorem idx_pop_hook (X : Indexed α) (L : X.Lawful key) {a : Array α} (h : IdxOk X a) :
    PopsLike X ((idxI key X).pop a) ((arrI key).pop (eraseIdx X a)) := by
  refine ⟨?_, ?_, ?_, ?_⟩
  · intro k y hk
    simp only [idxI, Array.getElem?_pop] at hk
    split at hk
    · exact h k y hk
    · cases hk
  · intro y hy
    simp only [idxI, Option.map_eq_some_iff] at hy
    obtain ⟨z, _, rfl⟩ := hy
    exact L.get_set _ _
  · simp only [idxI, arrI, eraseIdx]
    apply Array.ext_getElem?
    simp [Array.getElem?_pop, Array.getElem?_map]
  · simp only [idxI, arrI, eraseIdx, Array.back?_eq_getElem?, Array.getElem?_map, Array.size_map]
    cases a[a.size - 1]? with
    | none => rfl
    | some z => simp [L.set_set]

theorem idx_pop (X : Indexed α) (L : X.Lawful key) (a : Array α) (h : IdxOk X a) (hne : 0 < a.size) :
    PopsLike X (pop (idxI key X) a) (pop (arrI key) (eraseIdx X a)) := by
  have r := popPrep_refines key (idx_refines key X L) a h (by simpa [eraseIdx] using hne)
  rw [pop_eq, pop_eq, ← r.1]
  exact idx_pop_hook key X L r.2

theorem idx_remove (X : Indexed α) (L : X.Lawful key) (a : Array α) (i : Nat) (h : IdxOk X a) (hi : i < a.size) :
    PopsLike X (remove (idxI key X) a i) (remove (arrI key) (eraseIdx X a) i) := by
  have r := removePrep_refines key (idx_refines key X L) a i h (by simpa [eraseIdx] using hi)
  simp only [remove]
  rw [← r.1]
  exact idx_pop_hook key X L r.2

end Snowflake.Heap
