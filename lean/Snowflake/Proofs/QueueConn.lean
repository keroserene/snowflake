import Snowflake.Model.QueueConn
import Snowflake.Proofs.ClientMap
/-!
What `SendQueue`, the non-blocking send and the non-blocking receive do to the queue of every address, and the
two FIFO history theorems of `Snowflake.Model.QueueConn` (incoming; outgoing per address).
-/
namespace Snowflake.ClientMap
open Snowflake Snowflake.Heap

def queueOf (s : Inner) (a : Nat) : List Bytes := ((recOf s a).map (·.queue)).getD []

theorem recOf_iff (s : Inner) (hc : Consistent s) (a : Nat) (r : Rec) :
    recOf s a = some r ↔ r ∈ s.byAge ∧ r.addr = a := by
  unfold recOf
  constructor
  · intro h
    cases hg : s.byAddr.get a with
    | none => simp [hg] at h
    | some i =>
      simp only [hg] at h
      obtain ⟨r', hr', ha⟩ := hc.bwd a i hg
      rw [h] at hr'; cases hr'
      exact ⟨Array.mem_of_getElem? h, ha⟩
  · rintro ⟨hm, ha⟩
    obtain ⟨k, hk, rfl⟩ := Array.mem_iff_getElem.mp hm
    have := hc.fwd k s.byAge[k] (by simp [hk])
    rw [ha] at this
    simp [this, hk]

theorem queueOf_sendQueue (s : Inner) (a : Nat) (t : Int) (g : Good s) (b : Nat) :
    queueOf (sendQueue s a t) b = queueOf s b := by
  have g' := (sendQueue_good s a t g).1
  unfold queueOf
  cases hb : recOf s b with
  | some r =>
    obtain ⟨hr, hrb⟩ := (recOf_iff s g.cons b r).1 hb
    rw [(recOf_iff _ g'.cons b _).2 ⟨sendQueue_keeps s a t g r hr, (touch_addr a t r).trans hrb⟩]
    exact touch_queue a t r
  | none =>
    cases hb' : recOf (sendQueue s a t) b with
    | none => rfl
    | some x =>
      -- a record of `b` that was not there before is the fresh one, whose queue is empty
      obtain ⟨hx, hxb⟩ := (recOf_iff _ g'.cons b x).1 hb'
      rcases Array.mem_append.1 ((sendQueue_perm s a t g).mem_iff.1 hx) with h | h
      · obtain ⟨r, hr, rfl⟩ := Array.mem_map.1 h
        rw [(recOf_iff s g.cons b r).2 ⟨hr, (touch_addr a t r).symm.trans hxb⟩] at hb
        cases hb
      · split at h
        · rw [Array.mem_singleton.1 h]; rfl
        · simp at h

theorem recOf_set (s : Inner) (hc : Consistent s) (a i : Nat) (r r' : Rec)
    (hget : s.byAddr.get a = some i) (hr : s.byAge[i]? = some r) (b : Nat) :
    recOf { s with byAge := s.byAge.setIfInBounds i r' } b = if b = a then some r' else recOf s b := by
  obtain ⟨hi, -⟩ := Array.getElem?_eq_some_iff.mp hr
  unfold recOf
  by_cases hb : b = a
  · subst hb
    simp [hget, hi]
  · simp only [hb, if_false]
    cases hgb : s.byAddr.get b with
    | none => rfl
    | some j =>
      simp only [Array.getElem?_setIfInBounds]
      have hij : i ≠ j := by
        intro h; subst h
        obtain ⟨x, hx, hxa⟩ := hc.bwd a i hget
        obtain ⟨y, hy, hyb⟩ := hc.bwd b i hgb
        rw [hx] at hy; cases hy
        exact hb (hyb.symm.trans hxa)
      simp [hij]

theorem queueOf_offer (s : Inner) (a : Nat) (p : Bytes) (g : Good s) (b : Nat) :
    queueOf (offer s a p).1 b =
      if b = a ∧ (offer s a p).2 = true then queueOf s b ++ [p] else queueOf s b := by
  unfold offer
  cases hget : s.byAddr.get a with
  | none => simp
  | some i =>
    cases hr : s.byAge[i]? with
    | none => simp [hr]
    | some r =>
      simp only [hr]
      have hsome : recOf s a = some r := by simp [recOf, hget, hr]
      by_cases hl : r.queue.length < queueSize
      · simp only [hl, if_true, and_true]
        unfold queueOf
        rw [recOf_set s g.cons a i r _ hget hr b]
        by_cases hb : b = a
        · subst hb; simp [hsome]
        · simp [hb]
      · simp [hl]

theorem queueOf_poll (s : Inner) (a : Nat) (g : Good s) (b : Nat) :
    (if b = a then (poll s a).2.toList else []) ++ queueOf (poll s a).1 b = queueOf s b := by
  unfold poll
  cases hget : s.byAddr.get a with
  | none => by_cases hb : b = a <;> simp [hb]
  | some i =>
    cases hr : s.byAge[i]? with
    | none => by_cases hb : b = a <;> simp [hb, hr]
    | some r =>
      simp only [hr]
      have hsome : recOf s a = some r := by simp [recOf, hget, hr]
      cases hq : r.queue with
      | nil => by_cases hb : b = a <;> simp [hb]
      | cons x rest =>
        unfold queueOf
        rw [recOf_set s g.cons a i r _ hget hr b]
        by_cases hb : b = a
        · subst hb; simp [hsome, hq]
        · simp [hb]

def Bounded (s : Inner) : Prop := ∀ a, (queueOf s a).length ≤ queueSize

end Snowflake.ClientMap

namespace Snowflake.QueueConn
open Snowflake Snowflake.ClientMap

/-- Packets (values at call time) that `QueueIncoming` accepted during `ops`. -/
def acceptedIn : St → List Op → List (Bytes × Nat)
  | _, [] => []
  | s, op :: ops =>
    (match op with
      | .incoming p a => if !s.closed && decide (s.recvQ.length < queueSize) then [(p, a)] else []
      | _ => []) ++ acceptedIn (step s op).1 ops

/-- Stored packets handed out by successful `ReadFrom` calls during `ops`. -/
def deliveredIn : St → List Op → List (Bytes × Nat)
  | _, [] => []
  | s, op :: ops =>
    (match op with
      | .read _ => if s.closed then [] else s.recvQ.head?.toList
      | _ => []) ++ deliveredIn (step s op).1 ops

/-- Packets that `WriteTo(·, a)` put on the outgoing queue of `a` during `ops`. -/
def acceptedOut (a : Nat) : St → List Op → List Bytes
  | _, [] => []
  | s, op :: ops =>
    (match op with
      | .write p b t =>
        if b = a ∧ s.closed = false ∧ (offer (sendQueue s.clients b t) b p).2 = true then [p] else []
      | _ => []) ++ acceptedOut a (step s op).1 ops

/-- Packets received from `OutgoingQueue(a)` during `ops`. -/
def takenOut (a : Nat) : St → List Op → List Bytes
  | _, [] => []
  | s, op :: ops =>
    (match op with
      | .out b t => if b = a then (takeOutgoing s b t).2.toList else []
      | _ => []) ++ takenOut a (step s op).1 ops

theorem run_cons (s : St) (op : Op) (ops : List Op) :
    (run s (op :: ops)).1 = (run (step s op).1 ops).1 := rfl

theorem run_inv (P : St → Prop) (hstep : ∀ s op, P s → P (step s op).1) (ops : List Op) :
    ∀ s, P s → P (run s ops).1 := by
  induction ops with
  | nil => exact fun _ h => h
  | cons op ops ih => exact fun s h => ih _ (hstep s op h)

theorem fifo_incoming (ops : List Op) : ∀ s : St,
    deliveredIn s ops ++ (run s ops).1.recvQ = s.recvQ ++ acceptedIn s ops := by
  induction ops with
  | nil => intro s; simp [deliveredIn, acceptedIn, run]
  | cons op ops ih =>
    intro s
    rw [run_cons]
    simp only [deliveredIn, acceptedIn, List.append_assoc, ih]
    cases op with
    | incoming p a =>
      simp only [step, queueIncoming, List.nil_append]
      by_cases hc : s.closed <;> by_cases hl : s.recvQ.length < queueSize <;> simp [hc, hl]
    | write p a t =>
      simp only [step, writeTo, List.nil_append]
      by_cases hc : s.closed <;> simp [hc]
    | read n =>
      simp only [step, readFrom, List.nil_append]
      by_cases hc : s.closed
      · simp [hc]
      · cases hq : s.recvQ with
        | nil => simp [hc, hq]
        | cons x rest => simp [hc]
    | out a t => simp [step, takeOutgoing]
    | close e =>
      simp only [step, closeWithError, List.nil_append]
      by_cases hc : s.closed <;> simp [hc]

theorem step_good (s : St) (op : Op) (g : Good s.clients) : Good (step s op).1.clients := by
  cases op with
  | incoming p a =>
    simp only [step, queueIncoming]
    split
    · exact g
    · split <;> exact g
  | write p a t =>
    simp only [step, writeTo]
    split
    · exact g
    · exact (offer_good _ a p (sendQueue_good _ a t g).1).1
  | read n =>
    simp only [step, readFrom]
    split
    · exact g
    · split <;> exact g
  | out a t => exact (poll_good _ a (sendQueue_good _ a t g).1).1
  | close e => simp only [step, closeWithError]; split <;> exact g

theorem fifo_outgoing (a : Nat) (ops : List Op) : ∀ s : St, Good s.clients →
    takenOut a s ops ++ queueOf (run s ops).1.clients a = queueOf s.clients a ++ acceptedOut a s ops := by
  induction ops with
  | nil => intro s _; simp [takenOut, acceptedOut, run]
  | cons op ops ih =>
    intro s g
    rw [run_cons]
    simp only [takenOut, acceptedOut, List.append_assoc, ih _ (step_good s op g)]
    cases op with
    | incoming p b =>
      simp only [step, queueIncoming, List.nil_append]
      by_cases hc : s.closed <;> by_cases hl : s.recvQ.length < queueSize <;> simp [hc, hl]
    | write p b t =>
      simp only [step, writeTo, List.nil_append]
      by_cases hc : s.closed
      · simp [hc]
      · simp only [hc, Bool.false_eq_true, if_false, true_and]
        rw [queueOf_offer _ b p (sendQueue_good _ b t g).1 a, queueOf_sendQueue _ b t g a]
        by_cases hab : a = b
        · subst hab
          by_cases h2 : (offer (sendQueue s.clients a t) a p).2 = true <;> simp [h2]
        · have hba : ¬ b = a := fun hh => hab hh.symm
          simp [hab, hba]
    | read n =>
      simp only [step, readFrom, List.nil_append]
      by_cases hc : s.closed
      · simp [hc]
      · cases s.recvQ with
        | nil => simp [hc]
        | cons x rest => simp [hc]
    | out b t =>
      simp only [step, takeOutgoing, List.nil_append]
      have h := queueOf_poll (sendQueue s.clients b t) b (sendQueue_good _ b t g).1 a
      rw [queueOf_sendQueue _ b t g a] at h
      by_cases hb : b = a
      · subst hb
        rw [← List.append_assoc, h]
      · have hb' : ¬ a = b := fun hh => hb hh.symm
        simp only [hb', if_false, List.nil_append] at h
        simp only [hb, if_false, List.nil_append, h]
    | close e =>
      simp only [step, closeWithError, List.nil_append]
      by_cases hc : s.closed <;> simp [hc]

end Snowflake.QueueConn
