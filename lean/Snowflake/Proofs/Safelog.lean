import Snowflake.Proofs.Rx
import Snowflake.Model.Safelog
/-!
The safelog model for arbitrary expressions.  Of the concrete ones the proofs need `Shape`, for the final newline
also `avoids 10 addr`, and the coverage theorems `eraseCaps addr = addressShapeN n`; all three are discharged for
the generated terms by `decide +kernel` in `Tie/Safelog.lean` and `Tie/SafelogF4.lean`.
-/
namespace Snowflake.Safelog
open Snowflake.Rx

/-- `fac`: `full` is `fL · addr · fR` up to captures and bracketing; `heavy`: every match of `addr` has weight. -/
structure Shape (full addr fL fR : Rx) : Prop where
  fac : factors full = fL :: (factors addr ++ [fR])
  anchorFree : anchorFree addr = true
  heavy : 0 < minWeight wt addr

theorem placeholder_weight : weightB wt placeholder = 0 := by decide

theorem replaceAllFunc_weight (w : UInt8 → Nat) (r : Rx) (b : Bytes) (f : Bytes → Bytes)
    (h : ∀ m, weightB w (f (bytesOf m)) ≤ weightT w m) :
    weightB w (replaceAllFunc r b f) ≤ weightB w b ∧
    (∀ s m t, find r (decode b) = some (s, m, t) → weightB w (f (bytesOf m)) < weightT w m →
      weightB w (replaceAllFunc r b f) < weightB w b) := by
  obtain ⟨ps, e, ⟨ht, _⟩, hf⟩ := replaceAllFunc_eq r b f
  have hb : weightT w (tokensOf ps) = weightB w b := by rw [ht, weightT, bytesOf_decode]
  rw [e, ← hb]
  obtain ⟨hle, hlt⟩ := render_weight w f ps fun m _ => h m
  exact ⟨hle, fun s m t hs hm => hlt ⟨m, hf s m t hs, hm⟩⟩

theorem inner_le (addr : Rx) (bs : Bytes) : weightB wt (replaceAll addr bs placeholder) ≤ weightB wt bs :=
  (replaceAllFunc_weight wt addr bs _ fun _ => by simp [placeholder_weight]).1

theorem inner_lt (addr : Rx) (hw : 0 < minWeight wt addr) (bs : Bytes)
    (hf : (find addr (decode bs)).isSome) : weightB wt (replaceAll addr bs placeholder) < weightB wt bs := by
  obtain ⟨⟨s, m, t⟩, hff⟩ := Option.isSome_iff_exists.1 hf
  refine (replaceAllFunc_weight wt addr bs _ fun _ => by simp [placeholder_weight]).2 s m t hff ?_
  obtain ⟨hx, hm, _⟩ := findFrom_sound hff
  have := minWeight_sound wt hm fun x hxm => decode_wf bs x (by rw [hx]; simp [hxm])
  rw [placeholder_weight]
  omega

theorem pass_lt {full addr fL fR : Rx} (sh : Shape full addr fL fR) (b : Bytes)
    (hf : hasMatch full b = true) : weightB wt (scrubPass full addr b) < weightB wt b := by
  obtain ⟨⟨s, m, t⟩, hff⟩ := Option.isSome_iff_exists.1 hf
  refine (replaceAllFunc_weight wt full b (fun m => replaceAll addr m placeholder)
    fun m => inner_le addr (bytesOf m)).2 s m t hff ?_
  obtain ⟨hx, hm, _⟩ := findFrom_sound hff
  apply inner_lt addr sh.heavy
  rw [decode_segment b s m t hx]
  obtain ⟨dL, a, dR, rfl, _, ha, _⟩ := (matches_sandwich sh.fac _ _ _).1 hm
  have ha' := anchorFree_frame ha sh.anchorFree (dL.reverse ++ []) dR
  simpa [find] using findFrom_complete ha'

theorem scrubLoop_clean {full addr fL fR : Rx} (sh : Shape full addr fL fR) :
    ∀ {n : Nat} {b : Bytes}, weightB wt b < n → hasMatch full (scrubLoop full addr n b) = false := by
  intro n
  induction n with
  | zero => intro b h; omega
  | succ n ih =>
    intro b h
    simp only [scrubLoop]
    split
    · rename_i hm
      apply ih
      have := pass_lt sh b hm
      omega
    · rename_i hm; simpa using hm

/-- The fuel `weightB wt b + 1` of `scrub` is never what stops the loop. -/
theorem scrub_fixed_no_match {full addr fL fR : Rx} (sh : Shape full addr fL fR) (b : Bytes) :
    hasMatch full (scrub true full addr b) = false := by
  simp only [scrub, if_true]
  exact scrubLoop_clean sh (Nat.lt_succ_self _)

def EndsNL (b : Bytes) : Prop := b.getLast? = some 10

theorem no_empty_match {addr : Rx} (hw : 0 < minWeight wt addr) {l t : List Tok} : ¬ Matches addr l [] t := by
  intro h
  have := minWeight_sound wt h (by simp)
  simp [weightT, bytesOf, weightB] at this
  omega

theorem replaceAllFunc_keepsEnd (r : Rx) (b : Bytes) {f : Bytes → Bytes} (hne : ∀ l t, ¬ Matches r l [] t)
    (h : ∀ pre m post, decode b = pre ++ (m ++ post) → Matches r pre.reverse m post →
      m.getLast? = some nlTok → EndsNL (f (bytesOf m))) : KeepsEnd (decode b) (replaceAllFunc r b f) := by
  obtain ⟨ps, e, ⟨ht, hh⟩, _⟩ := replaceAllFunc_eq r b f
  rw [e, ← ht]
  refine render_keepsEnd f ps fun m hm => ?_
  obtain ⟨pre, post, hx, hmm⟩ := hh m hm
  exact ⟨fun he => absurd (he ▸ hmm) (hne _ _), h pre m post hx (by simpa using hmm)⟩

theorem inner_keeps_nl (addr : Rx) (hw : 0 < minWeight wt addr) (hav : avoids 10 addr = true) {bs : Bytes}
    (h : (decode bs).getLast? = some nlTok) : EndsNL (replaceAll addr bs placeholder) :=
  (replaceAllFunc_keepsEnd addr bs (fun _ _ => no_empty_match hw)
    fun _ _ _ _ hmm hnl => absurd rfl (avoids_sound hmm hav nlTok (List.mem_of_getLast? hnl))).2 h

theorem pass_keeps_nl {full addr fL fR : Rx} (sh : Shape full addr fL fR) (hav : avoids 10 addr = true)
    (b : Bytes) (h : EndsNL b) : EndsNL (scrubPass full addr b) := by
  refine (replaceAllFunc_keepsEnd full b (fun l t hmm => ?_)
    fun pre m post hx _ hnl => inner_keeps_nl addr sh.heavy hav (by rwa [decode_segment _ pre m post hx])).2
    (getLast?_decode_nl h)
  -- an empty match of `full` would contain an empty match of `addr`
  obtain ⟨dL, a, dR, hnil, _, ha, _⟩ := (matches_sandwich sh.fac _ _ _).1 hmm
  obtain rfl : a = [] := by simp at hnil; exact hnil.2.1
  exact no_empty_match sh.heavy ha

theorem scrub_fixed_keeps_nl {full addr fL fR : Rx} (sh : Shape full addr fL fR) (hav : avoids 10 addr = true)
    (b : Bytes) (h : EndsNL b) : EndsNL (scrub true full addr b) := by
  simp only [scrub, if_true]
  generalize weightB wt b + 1 = n
  induction n generalizing b with
  | zero => exact h
  | succ n ih =>
    simp only [scrubLoop]
    split
    · exact ih _ (pass_keeps_nl sh hav b h)
    · exact h

/-- What `splitLinesAux` returns: nothing is lost, the rest holds no line feed, every line ends in its only one. -/
theorem splitLinesAux_spec (bs cur : Bytes) (hc : (10 : UInt8) ∉ cur) :
    (splitLinesAux cur bs).1.flatten ++ (splitLinesAux cur bs).2 = cur.reverse ++ bs ∧
    (10 : UInt8) ∉ (splitLinesAux cur bs).2 ∧
    ∀ ln ∈ (splitLinesAux cur bs).1, ∃ body, ln = body ++ [10] ∧ (10 : UInt8) ∉ body := by
  fun_induction splitLinesAux cur bs with
  | case1 cur => exact ⟨by simp, by simpa using hc, nofun⟩
  | case2 cur cs r ih =>
    obtain ⟨h1, h2, h3⟩ := ih (by simp)
    exact ⟨by simpa using h1, h2, List.forall_mem_cons.2 ⟨⟨cur.reverse, by simp, by simpa using hc⟩, h3⟩⟩
  | case3 cur c cs hne ih =>
    obtain ⟨h1, h2, h3⟩ := ih (by simp [hc, Ne.symm hne])
    exact ⟨by simp [h1], h2, h3⟩

theorem splitLines_rest_no_nl (b : Bytes) : (10 : UInt8) ∉ (splitLines b).2 :=
  (splitLinesAux_spec b [] (by simp)).2.1

theorem splitLinesAux_append (x cur y : Bytes) :
    splitLinesAux cur (x ++ y) =
      ((splitLinesAux cur x).1 ++ (splitLinesAux (splitLinesAux cur x).2.reverse y).1,
       (splitLinesAux (splitLinesAux cur x).2.reverse y).2) := by
  fun_induction splitLinesAux cur x with
  | case1 cur => simp
  | case2 cur cs r ih => simp [splitLinesAux, ih, r]
  | case3 cur c cs hne ih => simp [splitLinesAux, hne, ih]

theorem splitLinesAux_of_no_nl (bs cur : Bytes) (h : (10 : UInt8) ∉ bs) :
    splitLinesAux cur bs = ([], cur.reverse ++ bs) := by
  fun_induction splitLinesAux cur bs with
  | case1 cur => simp
  | case2 cur cs r ih => simp at h
  | case3 cur c cs hne ih => simp [ih (fun h' => h (.tail _ h'))]

theorem splitLines_append (x y : Bytes) :
    splitLines (x ++ y) =
      ((splitLines x).1 ++ (splitLines ((splitLines x).2 ++ y)).1, (splitLines ((splitLines x).2 ++ y)).2) := by
  have hrest : (10 : UInt8) ∉ (splitLinesAux [] x).2 := splitLines_rest_no_nl x
  simp only [splitLines, splitLinesAux_append x [] y]
  -- splitting on with the rest as the line read so far is splitting the rest followed by `y`
  rw [splitLinesAux_append (splitLinesAux [] x).2 [] y, splitLinesAux_of_no_nl _ _ hrest]
  simp

theorem writes_fixed (sc : Bytes → Bytes) : ∀ (chunks : List Bytes) (pend : Bytes), (10 : UInt8) ∉ pend →
    writes true sc pend chunks =
      ((splitLines (pend ++ chunks.flatten)).1.map sc, (splitLines (pend ++ chunks.flatten)).2) := by
  intro chunks
  induction chunks with
  | nil => intro pend h; simp [writes, splitLines, splitLinesAux_of_no_nl pend [] h]
  | cons b bs ih =>
    intro pend h
    have hrest := splitLines_rest_no_nl (pend ++ b)
    simp only [writes, write, if_true, List.flatten_cons]
    rw [ih _ hrest, ← List.append_assoc pend b, splitLines_append (pend ++ b)]
    simp

theorem clsMem_delimCls {r : Nat} (h : isDelimRune r) : clsMem delimCls r = true := by
  obtain ⟨h1, h2, h3⟩ := h
  simp only [isWordRune, not_or, not_and, Nat.not_le] at h2
  simp only [delimCls, clsMem_cons, clsMem_nil]
  omega

theorem clsMem_spaceCls {r : Nat} (h : isSpaceRune r) : clsMem spaceCls r = true := by
  simp only [isSpaceRune] at h
  simp only [spaceCls, clsMem_cons, clsMem_nil]
  omega

theorem leftOK_delimL {pre : List Tok} (h : LeftOK pre) :
    ∃ p dL, pre = p ++ dL ∧ ∀ t, Matches delimL p.reverse dL t := by
  rcases h with rfl | ⟨p, d, rfl, hd⟩
  · exact ⟨[], [], rfl, fun t => .altL (.bot t)⟩
  · exact ⟨p, [d], rfl, fun t => .altR (.cls _ _ d t (clsMem_delimCls hd))⟩

theorem rightOK_delimR {post : List Tok} (h : RightOK post) :
    ∃ dR t, post = dR ++ t ∧ ∀ l, Matches delimR l dR t := by
  rcases h with rfl | ⟨d, q, rfl, hd⟩ | ⟨c, s, q, rfl, hc, hs⟩
  · exact ⟨[], [], rfl, fun l => .altR (.altR (.altR (.eot l)))⟩
  · exact ⟨[d], q, rfl, fun l => .altR (.altR (.altL (.cls _ l d q (clsMem_delimCls hd))))⟩
  · exact ⟨[c, s], q, rfl, fun l => .altR (.altL (.cat (.cls _ l c _ (by simp [hc]))
      (.cls _ _ s q (clsMem_spaceCls hs))))⟩

/-- Matcher completeness plus the shape of the pattern. -/
theorem exposed_found {full addr : Rx} (sh : Shape full addr delimL delimR) (toks : List Tok)
    (h : Exposed addr toks) : (find full toks).isSome := by
  obtain ⟨pre, a, post, rfl, ha, hl, hr⟩ := h
  obtain ⟨p, dL, rfl, hL⟩ := leftOK_delimL hl
  obtain ⟨dR, t, rfl, hR⟩ := rightOK_delimR hr
  have hm : Matches full (p.reverse ++ []) (dL ++ (a ++ dR)) t :=
    (matches_sandwich sh.fac _ _ _).2 ⟨dL, a, dR, rfl, by simpa using hL _,
      anchorFree_frame ha sh.anchorFree _ _, hR _⟩
  simpa [find] using findFrom_complete hm

theorem scrub_fixed_clean {full addr : Rx} (sh : Shape full addr delimL delimR) (b : Bytes) :
    ¬ Exposed addr (decode (scrub true full addr b)) :=
  fun h => Bool.false_ne_true ((scrub_fixed_no_match sh b).symm.trans (exposed_found sh _ h))

end Snowflake.Safelog
