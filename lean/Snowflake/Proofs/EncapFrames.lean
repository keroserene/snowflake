import Snowflake.Proofs.Encap
/-!
Whole streams (C09, C05, C01).  What one `ReadData` returns depends only on the bytes it consumes; the rest
follows from one notion, `Frames`: an encoded item sequence is one, so is what a handler has consumed after
any number of `ReadData` calls, and more bytes only ever add chunks to what was decoded.
-/
namespace Snowflake.Encap

/-- `delta` is exactly what one `ReadData` call returning `res` consumes: padding chunks, then one data chunk
or an over-long prefix. -/
def Reads (delta : Bytes) (res : Res) : Prop :=
  ∀ (more : Bytes) (f : Nat), (delta ++ more).length < f → next f (delta ++ more) = (res, more)

theorem next_local (f : Nat) (bs : Bytes) : ∀ (res : Res) (rest : Bytes), next f bs = (res, rest) →
    res ≠ .eof → res ≠ .unexpectedEOF → ∃ delta, bs = delta ++ rest ∧ 1 ≤ delta.length ∧ Reads delta res := by
  fun_induction next f bs with
  | case1 | case2 => rintro _ _ ⟨⟩ h; exact absurd rfl h
  | case3 | case5 => rintro _ _ ⟨⟩ _ h; exact absurd rfl h
  | case4 _ bs hp =>
    rintro _ _ ⟨⟩ _ _
    obtain ⟨pre, h3, hbs, hloc⟩ := parsePrefix_tooLong hp
    refine ⟨pre, hbs, by omega, fun more f' hf' => ?_⟩
    cases f' with
    | zero => omega
    | succ f' => simp [next, hloc more, ← h3]
  | case6 _ bs n r0 hlen hp =>
    rintro _ _ ⟨⟩ _ _
    obtain ⟨pre, rfl, _, hloc, _⟩ := parsePrefix_local hp
    refine ⟨pre ++ r0.take n, by simp, by simp; omega, fun more f' hf' => ?_⟩
    rw [List.append_assoc] at hf' ⊢
    exact next_cons hloc (List.length_take_of_le (by omega)) hf'
  | case7 _ bs d n r0 hp hlen hd ih =>
    -- a padding chunk: skipped, then what is read behind it
    intro res rest h h1 h2
    obtain ⟨delta, hd1, _, hd3⟩ := ih res rest h h1 h2
    obtain ⟨pre, rfl, _, hloc, _⟩ := parsePrefix_local hp
    refine ⟨pre ++ r0.take n ++ delta, ?_, by simp; omega, fun more f' hf' => ?_⟩
    · rw [List.append_assoc, List.append_assoc, ← hd1, List.take_append_drop]
    · rw [List.append_assoc, List.append_assoc] at hf' ⊢
      rw [next_cons hloc (List.length_take_of_le (by omega)) hf', if_neg hd]
      exact hd3 more f' (by simp only [List.length_append] at hf' ⊢; omega)

theorem next_chunk_length_lt {f : Nat} {bs p rest : Bytes} (h : next f bs = (.chunk p, rest)) :
    rest.length < bs.length := by
  obtain ⟨delta, rfl, h2, _⟩ := next_local f bs _ _ h nofun nofun
  rw [List.length_append]; omega

theorem decodeFuel_fuel (f1 f2 : Nat) (bs : Bytes) (h1 : bs.length < f1) (h2 : bs.length < f2) :
    decodeFuel f1 bs = decodeFuel f2 bs := by
  fun_induction decodeFuel f1 bs generalizing f2 with
  | case1 => omega
  | case2 f1 bs p rest hn cs st hcs ih =>
    have := next_chunk_length_lt hn
    cases f2 with
    | zero => omega
    | succ f2 => simp only [decodeFuel, hn, ← ih f2 (by omega) (by omega), hcs]
  | _ =>
    cases f2 with
    | zero => omega
    | succ f2 => simp only [decodeFuel, *]

theorem decodeAll_eq (bs : Bytes) : decodeAll bs =
    match next (bs.length + 1) bs with
    | (.chunk p, rest) => (p :: (decodeAll rest).1, (decodeAll rest).2)
    | (.eof, _) => ([], .eof)
    | (.unexpectedEOF, _) => ([], .unexpectedEOF)
    | (.tooLong, _) => ([], .tooLong) := by
  rw [decodeAll, decodeFuel]
  cases hn : next (bs.length + 1) bs with | mk res rest
  cases res with
  | chunk p =>
    simp only [decodeAll, decodeFuel_fuel _ (rest.length + 1) rest (next_chunk_length_lt hn) (Nat.lt_succ_self _)]
  | _ => rfl

theorem readAll_decode (fuel : Nat) (data : Bytes) (sc : Script) (hl : data.length < fuel) :
    readAll true fuel ⟨data, sc⟩ = decodeAll data := by
  induction fuel generalizing data sc with
  | zero => omega
  | succ fuel ih =>
    obtain ⟨s1, h1⟩ := readData_next (fuelFor ⟨data, sc⟩) data sc
    rw [next_fuel _ (data.length + 1) data (by simp [fuelFor]; omega) (Nat.lt_succ_self _)] at h1
    rw [readAll, h1, decodeAll_eq data]
    cases hn : next (data.length + 1) data with | mk res rest
    cases res with
    | chunk p =>
      have := next_chunk_length_lt hn
      simp only [ih rest s1 (by omega)]
    | _ => rfl

theorem reads_data (d : Bytes) (h : d.length < 1048576) : Reads (encodeItem (.data d)) (.chunk d) := by
  obtain ⟨p, hp, _⟩ := dataPrefix_some h
  intro more f hf
  simp only [encodeItem, encodeData, hp, Option.getD_some, List.append_assoc] at hf ⊢
  exact next_cons (fun m => parsePrefix_prefixFor 128 _ p m (Or.inr rfl) hp) rfl hf

/-- `fr` is a sequence of complete chunks whose data chunks are `ps`, in continuation-passing form, so that
it composes (`Frames.append`) and survives whatever follows on the stream. -/
def Frames (fr : Bytes) (ps : List Bytes) : Prop :=
  ∀ more, decodeAll (fr ++ more) = (ps ++ (decodeAll more).1, (decodeAll more).2)

theorem frames_nil : Frames [] [] := fun _ => rfl

theorem Frames.append {a b : Bytes} {ps qs : List Bytes} (ha : Frames a ps) (hb : Frames b qs) :
    Frames (a ++ b) (ps ++ qs) := by
  intro more
  rw [List.append_assoc, ha, hb, List.append_assoc]

theorem Reads.frames {delta p : Bytes} (h : Reads delta (.chunk p)) : Frames delta [p] := fun more => by
  rw [decodeAll_eq, h more _ (Nat.lt_succ_self _)]; rfl

theorem decodeAll_nil : decodeAll [] = ([], .eof) := rfl

theorem frames_decode {fr : Bytes} {ps : List Bytes} (h : Frames fr ps) : decodeAll fr = (ps, .eof) := by
  simpa [decodeAll_nil] using h []

theorem frames_padding (n : Nat) : Frames (padding n) [] := by
  intro more
  rw [decodeAll_eq, next_padding n more _ (Nat.lt_succ_self _),
    next_fuel _ (more.length + 1) more (by rw [List.length_append]; omega) (Nat.lt_succ_self _), ← decodeAll_eq]
  rfl

theorem frames_encodeItems : ∀ (items : List Item), (∀ i ∈ items, i.ok) → Frames (encodeItems items) (dataOf items)
  | [], _ => frames_nil
  | .data d :: is, h => by
    exact (reads_data d (h _ (List.mem_cons_self ..))).frames.append
      (frames_encodeItems is fun i hi => h i (List.mem_cons_of_mem _ hi))
  | .pad n :: is, h => by
    exact (frames_padding n).append (frames_encodeItems is fun i hi => h i (List.mem_cons_of_mem _ hi))

theorem decodeAll_append (bs more : Bytes) :
    ∃ qs, (decodeAll (bs ++ more)).1 = (decodeAll bs).1 ++ qs ∧
      ((decodeAll bs).2 = .tooLong → (decodeAll (bs ++ more)).2 = .tooLong) := by
  induction hn : bs.length using Nat.strongRecOn generalizing bs with
  | _ n ih =>
    rw [decodeAll_eq bs]
    cases hq : next (bs.length + 1) bs with
    | mk res rest =>
      cases res with
      | eof => exact ⟨_, rfl, nofun⟩
      | unexpectedEOF => exact ⟨_, rfl, nofun⟩
      | tooLong =>
        obtain ⟨delta, rfl, _, hr⟩ := next_local _ _ _ _ hq nofun nofun
        rw [List.append_assoc, decodeAll_eq, hr _ _ (Nat.lt_succ_self _)]
        exact ⟨[], rfl, fun _ => rfl⟩
      | chunk p =>
        obtain ⟨delta, rfl, _, hr⟩ := next_local _ _ _ _ hq nofun nofun
        obtain ⟨qs, h1, h2⟩ := ih _ (by rw [← hn, List.length_append]; omega) rest rfl
        rw [List.append_assoc, hr.frames]
        exact ⟨qs, by rw [h1]; rfl, h2⟩

theorem decodeAll_take {bs : Bytes} {ps : List Bytes} (h : decodeAll bs = (ps, .eof)) (k : Nat) :
    ∃ j, (decodeAll (bs.take k)).1 = ps.take j
      ∧ ((decodeAll (bs.take k)).2 = .eof ∨ (decodeAll (bs.take k)).2 = .unexpectedEOF) := by
  obtain ⟨qs, h1, h2⟩ := decodeAll_append (bs.take k) (bs.drop k)
  rw [List.take_append_drop, h] at h1 h2
  have h1 : ps = (decodeAll (bs.take k)).1 ++ qs := h1
  refine ⟨(decodeAll (bs.take k)).1.length, by rw [h1, List.take_left], ?_⟩
  cases hs : (decodeAll (bs.take k)).2 with
  | eof => exact Or.inl rfl
  | unexpectedEOF => exact Or.inr rfl
  | tooLong => cases h2 hs

end Snowflake.Encap
