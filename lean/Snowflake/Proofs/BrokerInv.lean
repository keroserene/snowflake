import Snowflake.Proofs.BrokerStep
import Snowflake.Base.TotalMap
/-!
Invariants of the broker model (repaired skeleton, `fixed = true`).  A transition rewrites at most one poll,
one client and one answer record, and every invariant is a conjunction of facts about one record or a pair
of records: preservation is checked on the rewritten records alone, against an arbitrary other record
(`upd_all`, `upd_left`, `upd_right`, `upd₂`).
-/
namespace Snowflake.Broker

/-! ## `SessOK` and `LinkOK` (every step lemma below needs both) -/

/-- Clauses per handler pc (`absent` `sendPolls` `got` `idle`), per waiter pc (`wnone` `wwait` `late` `fwd` `wdone`),
on registration (`inHeap` `heapU` `inMap` `closed`), on the ghosts (`offer` `popped`) and the reply (`res*`).
C02 reads `got` `offer` `resMatched`; C03 `absent` `heapU` `popped`; C04 the waiter clauses and `closed` `inHeap`
`inMap` `popped`; `sendPolls` `idle` `res` only carry the induction, `resIdle` nothing. -/
structure SessOK (s : Sess) : Prop where
  absent : s.h = .absent → s.w = .none ∧ s.inHeap = false ∧ s.inMap = false ∧ s.closed = false
      ∧ s.popBy = none ∧ s.offerFrom = none ∧ s.abuf = none ∧ s.res = .none
  sendPolls : s.h = .sendPolls → s.w = .none ∧ s.inHeap = false ∧ s.inMap = false ∧ s.closed = false
      ∧ s.popBy = none ∧ s.offerFrom = none ∧ s.abuf = none ∧ s.res = .none
  wnone : s.w = .none → s.h = .absent ∨ s.h = .sendPolls
  inHeap : s.inHeap = true → s.h = .waitOffer ∧ (s.w = .select ∨ s.w = .timedOut) ∧ s.inMap = true
      ∧ s.popBy = none
  heapU : s.w ≠ .none → s.heapU = pushU s.nat
  -- last disjunction: still queued, or popped by a client that has yet to hand over its offer
  wwait : s.w = .select ∨ s.w = .timedOut ∨ s.w = .lateRecv → s.h = .waitOffer ∧ s.offerFrom = none
      ∧ s.closed = false ∧ (s.inHeap = true ∨ s.popBy.isSome)
  late : s.w = .lateRecv → s.inHeap = false
  fwd : ∀ c, s.w = .forward c → s.h = .waitOffer ∧ s.offerFrom = some c ∧ s.closed = false ∧ s.inHeap = false
  got : ∀ c, s.h = .gotOffer c → s.w = .done ∧ s.offerFrom = some c ∧ s.inHeap = false ∧ s.closed = false
  closed : s.closed = true → s.w = .done ∧ s.inHeap = false ∧ s.inMap = false ∧ s.offerFrom = none
      ∧ s.popBy = none ∧ (s.h = .waitOffer ∨ s.h = .idle ∨ s.h = .done)
  -- the waiter ended by closing the channel or by forwarding an offer; a handler still waiting means the former
  wdone : s.w = .done → (s.closed = true ∨ s.offerFrom.isSome) ∧ (s.h = .waitOffer → s.closed = true)
  idle : s.h = .idle → s.closed = true
  offer : ∀ c, s.offerFrom = some c → s.popBy = some c
  inMap : s.inMap = true → s.inHeap = true ∨ s.popBy.isSome
  popped : s.popBy.isSome → s.inHeap = false ∧ s.w ≠ .none
  res : s.res ≠ .none → s.h = .done
  resMatched : ∀ c u, s.res = .matched c u → s.offerFrom = some c
  resIdle : s.res = .idle → s.closed = true

/-- Per client pc the ghosts of its poll (`sendOffer` `waitAnswer` `fin`) and back (`popBy` `sf`); `asend`: an answer
being sent names a registered poll; `cabsent` `cres`: a client's result against its pc.  C02, C03, C04 read `popBy`;
C02 and C04 `waitAnswer` `fin`; C02 `sf` `cres`; C04 `sendOffer`; `asend` serves `sess_step`, `cabsent` serves `cres`. -/
structure LinkOK (st : St) : Prop where
  sendOffer : ∀ c p, (st.cs c).pc = .sendOffer p → (st.ss p).popBy = some c ∧ (st.ss p).offerFrom = none
      ∧ (st.ss p).inMap = true ∧ (st.bridge (st.cs c).fp).isSome
  waitAnswer : ∀ c p, (st.cs c).pc = .waitAnswer p → (st.ss p).popBy = some c ∧ (st.ss p).offerFrom = some c
      ∧ (st.ss p).inMap = true ∧ (st.bridge (st.cs c).fp).isSome
  fin : ∀ c p, (st.cs c).pc = .fin p → (st.ss p).popBy = some c ∧ (st.ss p).offerFrom = some c
      ∧ (st.ss p).inMap = true ∧ (st.bridge (st.cs c).fp).isSome
  popBy : ∀ c p, (st.ss p).popBy = some c →
      ((st.cs c).pc = .sendOffer p ∨ (st.cs c).pc = .waitAnswer p ∨ (st.cs c).pc = .fin p
        ∨ ((st.cs c).pc = .done ∧ (st.ss p).inMap = false ∧ (st.ss p).offerFrom = some c))
      ∧ wantU (st.cs c).nat = (st.ss p).heapU ∧ (st.bridge (st.cs c).fp).isSome
  asend : ∀ a p, (st.as a).pc = .send p → (st.ss p).h ≠ .absent ∧ (st.ss p).h ≠ .sendPolls
  sf : ∀ c p, (st.cs c).sf = some p ↔ (st.ss p).popBy = some c
  cabsent : ∀ c, (st.cs c).pc = .absent → (st.cs c).res = .none
  cres : ∀ c, (st.cs c).res ≠ .none → (st.cs c).pc = .done ∨ ∃ p, (st.cs c).pc = .fin p

theorem sessOK_default : SessOK {} := by
  constructor <;> simp

variable {α β : Type} {P : Nat → α → Prop} {R : Nat → Nat → α → β → Prop} {m : Nat → α} {n : Nat → β}
  {i j : Nat} {a : α} {b : β}

theorem upd_all_ne (h : ∀ q, q ≠ i → P q (m q)) (hv : P i a) : ∀ q, P q (upd m i a q) := by
  intro q
  by_cases hq : q = i
  · subst hq; simpa using hv
  · simpa [upd_ne _ _ _ _ hq] using h q hq

theorem upd_all (h : ∀ q, P q (m q)) (hv : P i a) : ∀ q, P q (upd m i a q) :=
  upd_all_ne (fun q _ => h q) hv

theorem upd_left (h : ∀ x y, R x y (m x) (n y)) (hv : ∀ y, R i y a (n y)) : ∀ x y, R x y (upd m i a x) (n y) :=
  fun x y => upd_all (P := fun x v => R x y v (n y)) (fun x => h x y) (hv y) x

theorem upd_right (h : ∀ x y, R x y (m x) (n y)) (hv : ∀ x, R x j (m x) b) : ∀ x y, R x y (m x) (upd n j b y) :=
  fun x => upd_all (h x) (hv x)

theorem upd₂ (h : ∀ x y, R x y (m x) (n y))
    (h1 : ∀ x, x ≠ i → R x j (m x) (n j) → R x j (m x) b)
    (h2 : ∀ y, y ≠ j → R i y (m i) (n y) → R i y a (n y))
    (h3 : R i j (m i) (n j) → R i j a b) : ∀ x y, R x y (upd m i a x) (upd n j b y) :=
  fun x => upd_all_ne (fun y hy => upd_all (P := fun x v => R x y v (n y)) (fun x => h x y) (h2 y hy (h i y)) x)
    (upd_all_ne (P := fun x v => R x j v b) (fun x hx => h1 x hx (h x j)) (h3 (h i j)) x)

namespace SessOK
variable {s : Sess}

theorem res_none (hs : SessOK s) (h : s.h ≠ .done) : s.res = .none :=
  Classical.byContradiction fun e => h (hs.res e)

theorem pending (hs : SessOK s) (hw : s.w = .select ∨ s.w = .timedOut ∨ s.w = .lateRecv) :
    s.h = .waitOffer ∧ s.offerFrom = none ∧ s.closed = false ∧ s.res = .none ∧ s.heapU = pushU s.nat
      ∧ (s.inHeap = true ∧ s.inMap = true ∧ s.popBy = none ∨ s.inHeap = false ∧ s.popBy.isSome) := by
  obtain ⟨h1, h2, h3, h4⟩ := hs.wwait hw
  refine ⟨h1, h2, h3, hs.res_none (h1 ▸ nofun), hs.heapU ?_, h4.imp (fun e => ?_) fun e => ⟨(hs.popped e).1, e⟩⟩
  · rcases hw with e | e | e <;> exact e ▸ nofun
  · exact ⟨e, (hs.inHeap e).2.2⟩

/-- The answer buffer is only constrained (empty) before the poll is registered. -/
theorem setAbuf (hs : SessOK s) (x : Option Nat) (hx : s.h = .absent ∨ s.h = .sendPolls → x = none) :
    SessOK { s with abuf := x } :=
  { hs with
    absent := fun e => by simp [hs.absent e, hx (.inl e)]
    sendPolls := fun e => by simp [hs.sendPolls e, hx (.inr e)] }

end SessOK

variable {st st' : St} {l : Lab}

/-- Each case starts from what `SessOK` says at the program counter the guard names; that fixes every
component the fields of the rewritten record read, and `simp [*]` evaluates them. -/
theorem sess_step (hs : Step st l st') (h : ∀ q, SessOK (st.ss q)) (hl : LinkOK st) : ∀ q, SessOK (st'.ss q) := by
  cases hs with
  | clientArrive | ansArrive | cReject | cDeny | cTimer | aLookupFound | aLookupMissing | aSendDrop => exact h
  | pollArrive p nat n hh =>
    refine upd_all h ?_
    obtain ⟨h1, h2, h3, h4, h5, h6, h7, h8⟩ := (h p).absent hh
    constructor <;> simp [*]
  | add p hh =>
    refine upd_all h ?_
    obtain ⟨h1, h2, h3, h4, h5, h6, h7, h8⟩ := (h p).sendPolls hh
    constructor <;> simp [*]
  | wTimer p hw =>
    refine upd_all h ?_
    obtain ⟨h1, h2, h3, h4, h5, ⟨h6, h7, h8⟩ | ⟨h6, h7⟩⟩ := (h p).pending (.inl hw)
    · constructor <;> simp [*]
    · constructor <;> simp [*]
  | wCritRemove p hw hi =>
    refine upd_all h ?_
    obtain ⟨h1, h2, h3, h4, h5, ⟨-, -, h6⟩ | ⟨h6, -⟩⟩ := (h p).pending (.inr (.inl hw))
    · constructor <;> simp [*]
    · simp [hi] at h6
  | wCritLate p hw hi =>
    refine upd_all h ?_
    obtain ⟨h1, h2, h3, h4, h5, ⟨h6, -⟩ | ⟨h6, h7⟩⟩ := (h p).pending (.inr (.inl hw))
    · simp [hi] at h6
    · constructor <;> simp [*]
  | wOffer p c hw hpc | wLate p c hw hpc =>   -- the offer of the client that popped `p`
    refine upd_all h ?_
    have hp := (hl.sendOffer c p hpc).1
    obtain ⟨h1, h2, h3, h4, h5, ⟨-, -, h6⟩ | ⟨h6, -⟩⟩ := (h p).pending (by simp [hw])
    · simp [hp] at h6
    · constructor <;> simp [*]
  | cMatch c p _ _ hwt =>
    refine upd_all h ?_
    simp only [waiting, Bool.and_eq_true] at hwt
    obtain ⟨-, hw, hm, -⟩ := (h p).inHeap hwt.1
    obtain ⟨h1, h2, h3, h4, h5, -⟩ := (h p).pending (hw.imp_right .inl)
    rcases hw with hw | hw
    · constructor <;> simp [*]
    · constructor <;> simp [*]
  | wFwd p c hw hh =>
    refine upd_all h ?_
    obtain ⟨-, h1, h2, h3⟩ := (h p).fwd c hw
    have h4 := (h p).offer c h1
    have h5 := (h p).heapU (hw ▸ nofun)
    have h6 := (h p).res_none (hh ▸ nofun)
    constructor <;> simp [*]
  | hIdle p hh hc =>
    refine upd_all h ?_
    obtain ⟨h1, h2, h3, h4, h5, -⟩ := (h p).closed hc
    have h6 := (h p).heapU (h1 ▸ nofun)
    have h7 := (h p).res_none (hh ▸ nofun)
    constructor <;> simp [*]
  | hRespondUrl p c _ hh | hRespondNoBridge p c hh =>   -- the offer its waiter handed over
    refine upd_all h ?_
    obtain ⟨h1, h2, h3, h4⟩ := (h p).got c hh
    have h5 := (h p).offer c h2
    have h6 := (h p).heapU (h1 ▸ nofun)
    constructor <;> simp [*]
  | hRespondIdle p hh =>
    refine upd_all h ?_
    have h0 := (h p).idle hh
    obtain ⟨h1, h2, h3, h4, h5, -⟩ := (h p).closed h0
    have h6 := (h p).heapU (h1 ▸ nofun)
    constructor <;> simp [*]
  | cRecv c p => exact upd_all h ((h p).setAbuf none fun _ => rfl)
  | aSendPut a p hpc =>
    exact upd_all h ((h p).setAbuf _ fun e => (e.elim (hl.asend a p hpc).1 (hl.asend a p hpc).2).elim)
  | cFin c p hpc =>            -- only the fields that read `inMap`
    have hi := ((h p).popped (Option.isSome_of_eq_some (hl.fin c p hpc).1)).1
    exact upd_all h { h p with
      absent := fun e => by simp [(h p).absent e]
      sendPolls := fun e => by simp [(h p).sendPolls e]
      inHeap := fun e => by simp [hi] at e
      closed := fun e => by simp [(h p).closed e]
      inMap := nofun }

/-! ## `LinkOK`, as facts about one client (or answer) record and one poll record -/

/-- The poll a client handler is attached to. -/
def CPC.poll : CPC → Option Nat
  | .sendOffer p | .waitAnswer p | .fin p => some p
  | _ => none

structure Link (b : Nat → Option Nat) (c p : Nat) (k : Client) (s : Sess) : Prop where
  sendOffer : k.pc = .sendOffer p → s.popBy = some c ∧ s.offerFrom = none ∧ s.inMap = true ∧ (b k.fp).isSome
  waitAnswer : k.pc = .waitAnswer p → s.popBy = some c ∧ s.offerFrom = some c ∧ s.inMap = true ∧ (b k.fp).isSome
  fin : k.pc = .fin p → s.popBy = some c ∧ s.offerFrom = some c ∧ s.inMap = true ∧ (b k.fp).isSome
  popBy : s.popBy = some c →
      (k.pc = .sendOffer p ∨ k.pc = .waitAnswer p ∨ k.pc = .fin p
        ∨ (k.pc = .done ∧ s.inMap = false ∧ s.offerFrom = some c))
      ∧ wantU k.nat = s.heapU ∧ (b k.fp).isSome
  sf : k.sf = some p ↔ s.popBy = some c

/-- `LinkOK.cabsent` and `LinkOK.cres` in one. -/
def ClientOK (k : Client) : Prop := k.res = .none ∨ k.pc = .done ∨ ∃ p, k.pc = .fin p

def ALink (p : Nat) (r : Ans) (s : Sess) : Prop := r.pc = .send p → s.h ≠ .absent ∧ s.h ≠ .sendPolls

theorem LinkOK.pair (hl : LinkOK st) (c p : Nat) : Link st.bridge c p (st.cs c) (st.ss p) :=
  ⟨hl.sendOffer c p, hl.waitAnswer c p, hl.fin c p, hl.popBy c p, hl.sf c p⟩

namespace Link
variable {b : Nat → Option Nat} {c p : Nat} {k k' : Client} {s s' : Sess}

/-- A poll that `c` has not popped, before or after, is nothing to `c`. -/
theorem other (hk : Link b c p k s) (h : s.popBy ≠ some c) (h' : s'.popBy ≠ some c) : Link b c p k s' :=
  ⟨fun e => absurd (hk.sendOffer e).1 h, fun e => absurd (hk.waitAnswer e).1 h, fun e => absurd (hk.fin e).1 h,
    fun e => absurd e h', ⟨fun e => absurd (hk.sf.mp e) h, fun e => absurd e h'⟩⟩

/-- A client not attached to `p`, before or after, is nothing to `p`. -/
theorem other_poll (hk : Link b c p k s) (h : k.pc.poll ≠ some p) (hd : k.pc ≠ .done) (h' : k'.pc.poll ≠ some p)
    (hsf : k'.sf = some p → k.sf = some p) : Link b c p k' s := by
  have hn : s.popBy ≠ some c := fun e => by
    rcases (hk.popBy e).1 with e | e | e | e
    · exact h (congrArg CPC.poll e)
    · exact h (congrArg CPC.poll e)
    · exact h (congrArg CPC.poll e)
    · exact hd e.1
  exact ⟨fun e => absurd (congrArg CPC.poll e) h', fun e => absurd (congrArg CPC.poll e) h',
    fun e => absurd (congrArg CPC.poll e) h', fun e => absurd e hn,
    ⟨fun e => absurd (hk.sf.mp (hsf e)) hn, fun e => absurd e hn⟩⟩

end Link

theorem some_ne {p y : Nat} (h : y ≠ p) : some p ≠ some y := mt Option.some.inj h.symm

theorem link_pairs_step (hs : Step st l st') (h : ∀ q, SessOK (st.ss q)) (hl : LinkOK st) :
    ∀ c p, Link st'.bridge c p (st'.cs c) (st'.ss p) := by
  cases hs with
  | ansArrive | aLookupFound | aLookupMissing | aSendDrop => exact hl.pair
  | pollArrive p | wTimer p | wCritLate p | wFwd p | hIdle p | hRespondUrl p | hRespondNoBridge p | hRespondIdle p
  | aSendPut _ p =>            -- `Link` reads none of the components that change
    exact upd_right hl.pair fun c => { hl.pair c p with }
  | add p hh =>                -- nobody has popped `p` yet
    have hpop := ((h p).sendPolls hh).2.2.2.2.1
    exact upd_right hl.pair fun c => (hl.pair c p).other (hpop ▸ nofun) (hpop ▸ nofun)
  | wCritRemove p hw hi =>     -- in its heap, so unpopped
    have hpop := ((h p).inHeap hi).2.2.2
    exact upd_right hl.pair fun c => (hl.pair c p).other (hpop ▸ nofun) (hpop ▸ nofun)
  | clientArrive c _ _ hpc | cReject c hpc | cDeny c hpc =>   -- attached to no poll
    exact upd_left hl.pair fun p => (hl.pair c p).other_poll (hpc ▸ nofun) (hpc ▸ nofun) nofun id
  | cTimer c p hpc =>          -- attached to `p`, one stage further
    obtain ⟨hpop, hof, hm, hb⟩ := hl.waitAnswer c p hpc
    refine upd_left hl.pair fun q => ?_
    by_cases hq : q = p
    · subst hq
      exact ⟨nofun, nofun, fun _ => ⟨hpop, hof, hm, hb⟩,
        fun _ => ⟨.inr (.inr (.inl rfl)), (hl.popBy c q hpop).2⟩, hl.sf c q⟩
    · exact (hl.pair c q).other_poll (hpc ▸ some_ne hq) (hpc ▸ nofun) (some_ne hq) id
  | cMatch c p hpc hb hwt =>   -- `p` in a heap, so unpopped; `c` at `start`, so unattached
    simp only [waiting, Bool.and_eq_true, beq_iff_eq] at hwt
    obtain ⟨_, hw, hm, hpop⟩ := (h p).inHeap hwt.1
    exact upd₂ hl.pair (fun x hx hk => hk.other (hpop ▸ nofun) (some_ne hx))
      (fun y hy hk => hk.other_poll (hpc ▸ nofun) (hpc ▸ nofun) (some_ne hy) fun e => absurd e (some_ne hy)) fun _ =>
      ⟨fun _ => ⟨rfl, ((h p).wwait (hw.imp_right .inl)).2.1, hm, hb⟩, nofun, nofun, fun _ => ⟨.inl rfl, hwt.2.symm, hb⟩,
        ⟨fun _ => rfl, fun _ => rfl⟩⟩
  -- Below, `c` has popped `p` and is attached to it, before and after: other clients are nothing to `p`,
  -- other polls nothing to `c`, and the pair moves one stage further.
  | wOffer p c hw hpc | wLate p c hw hpc =>
    obtain ⟨hpop, hof, hm, hb⟩ := hl.sendOffer c p hpc
    exact upd₂ hl.pair (fun x hx hk => hk.other (hpop ▸ some_ne hx) (hpop ▸ some_ne hx))
      (fun y hy hk => hk.other_poll (hpc ▸ some_ne hy) (hpc ▸ nofun) (some_ne hy) id) fun _ =>
      ⟨nofun, fun _ => ⟨hpop, rfl, hm, hb⟩, nofun, fun _ => ⟨.inr (.inl rfl), (hl.popBy c p hpop).2⟩, hl.sf c p⟩
  | cRecv c p a hpc =>
    obtain ⟨hpop, hof, hm, hb⟩ := hl.waitAnswer c p hpc
    exact upd₂ hl.pair (fun x hx hk => hk.other (hpop ▸ some_ne hx) (hpop ▸ some_ne hx))
      (fun y hy hk => hk.other_poll (hpc ▸ some_ne hy) (hpc ▸ nofun) (some_ne hy) id) fun _ =>
      ⟨nofun, nofun, fun _ => ⟨hpop, hof, hm, hb⟩, fun _ => ⟨.inr (.inr (.inl rfl)), (hl.popBy c p hpop).2⟩, hl.sf c p⟩
  | cFin c p hpc =>
    obtain ⟨hpop, hof, hm, hb⟩ := hl.fin c p hpc
    exact upd₂ hl.pair (fun x hx hk => hk.other (hpop ▸ some_ne hx) (hpop ▸ some_ne hx))
      (fun y hy hk => hk.other_poll (hpc ▸ some_ne hy) (hpc ▸ nofun) nofun id) fun _ =>
      ⟨nofun, nofun, nofun, fun _ => ⟨.inr (.inr (.inr ⟨rfl, rfl, hof⟩)), (hl.popBy c p hpop).2⟩, hl.sf c p⟩

theorem link_client_step (hs : Step st l st') (hl : LinkOK st) : ∀ c, ClientOK (st'.cs c) := by
  have hc : ∀ c, ClientOK (st.cs c) := fun c =>
    Classical.byCases (fun e : (st.cs c).res = .none => .inl e) fun e => .inr (hl.cres c e)
  cases hs with
  | clientArrive c _ _ hpc => exact upd_all hc (.inl (hl.cabsent c hpc))
  | cReject c | cDeny c | cFin c => exact upd_all hc (.inr (.inl rfl))
  | cTimer c p | cRecv c p => exact upd_all hc (.inr (.inr ⟨p, rfl⟩))
  | wOffer p c _ hpc | wLate p c _ hpc | cMatch c p hpc =>   -- no result before, none after
    exact upd_all hc (.inl ((hc c).resolve_right (by simp [hpc])))
  | _ => exact hc

theorem link_asend_step (hs : Step st l st') (h : ∀ q, SessOK (st.ss q)) (hl : LinkOK st) :
    ∀ a p, ALink p (st'.as a) (st'.ss p) := by
  have ha : ∀ a p, ALink p (st.as a) (st.ss p) := hl.asend
  cases hs with
  | clientArrive | cReject | cDeny | cTimer => exact ha
  | pollArrive p _ _ hh => exact upd_right ha fun a e => absurd hh (ha a p e).1
  | add p | wFwd p | hIdle p | hRespondUrl p | hRespondNoBridge p | hRespondIdle p =>
    exact upd_right ha fun a _ => by simp
  | wTimer p | wCritRemove p | wCritLate p | wOffer p | wLate p | cMatch _ p | cRecv _ p | cFin _ p =>
    exact upd_right ha fun a => ha a p
  | ansArrive a | aLookupMissing a | aSendDrop a => exact upd_left ha nofun
  | aLookupFound a hpc hm =>
    refine upd_left ha fun p e => ?_
    cases e
    exact ⟨fun e => by simp [((h _).absent e).2.2.1] at hm, fun e => by simp [((h _).sendPolls e).2.2.1] at hm⟩
  | aSendPut a p => exact upd₂ ha (fun _ _ hk => hk) (nofun) (nofun)

theorem link_step (hs : Step st l st') (h : ∀ q, SessOK (st.ss q)) (hl : LinkOK st) : LinkOK st' :=
  have hp := link_pairs_step hs h hl
  have hc := link_client_step hs hl
  ⟨fun c p => (hp c p).sendOffer, fun c p => (hp c p).waitAnswer, fun c p => (hp c p).fin,
    fun c p => (hp c p).popBy, link_asend_step hs h hl, fun c p => (hp c p).sf,
    fun c e => (hc c).resolve_right (by simp [e]), fun c e => (hc c).resolve_left e⟩

theorem LinkOK.offerFrom_or_sendOffer (hl : LinkOK st) {c p : Nat} (h : (st.ss p).popBy = some c) :
    (st.ss p).offerFrom = some c ∨ (st.cs c).pc = .sendOffer p := by
  rcases (hl.popBy c p h).1 with e | e | e | ⟨_, _, e⟩
  · exact .inr e
  · exact .inl (hl.waitAnswer c p e).2.1
  · exact .inl (hl.fin c p e).2.1
  · exact .inl e

/-! ## `ResOK` -/

/-- C02 reads `cans` and `url`; `asend` and `abuf` carry `cans` through the answer channel; `aabsent` and `cabsent`
(an absent id is not listed) are read by nothing. -/
structure ResOK (st : St) : Prop where
  abuf : ∀ p a, (st.ss p).abuf = some a → (st.as a).sid = p ∧ (st.as a).ok = true ∧ (st.as a).pc = .done
  asend : ∀ a p, (st.as a).pc = .send p → (st.as a).sid = p ∧ (st.as a).ok = true
  aabsent : ∀ a, (st.as a).pc = .absent → a ∉ st.answers
  cans : ∀ c a, (st.cs c).res = .answer a →
      ∃ p, (st.cs c).sf = some p ∧ (st.as a).sid = p ∧ (st.as a).ok = true ∧ (st.as a).pc = .done
  url : ∀ p c u, (st.ss p).res = .matched c u → st.bridge (st.cs c).fp = some u
  cabsent : ∀ c, (st.cs c).pc = .absent → c ∉ st.clients

/-- The fields of `ResOK` as relations between records; each takes the index of every record it relates, read
or not, so that the `upd_*` lemmas apply. -/
def RAbuf (p a : Nat) (s : Sess) (r : Ans) : Prop := s.abuf = some a → r.sid = p ∧ r.ok = true ∧ r.pc = .done
def RSend (_a : Nat) (r : Ans) : Prop := ∀ p, r.pc = .send p → r.sid = p ∧ r.ok = true
def AFresh (L : List Nat) (a : Nat) (r : Ans) : Prop := r.pc = .absent → a ∉ L
def RCans (_c a : Nat) (k : Client) (r : Ans) : Prop :=
  k.res = .answer a → ∃ p, k.sf = some p ∧ r.sid = p ∧ r.ok = true ∧ r.pc = .done
def RUrl (b : Nat → Option Nat) (_p c : Nat) (s : Sess) (k : Client) : Prop :=
  ∀ u, s.res = .matched c u → b k.fp = some u
def CFresh (L : List Nat) (c : Nat) (k : Client) : Prop := k.pc = .absent → c ∉ L

theorem ResOK.of (h1 : ∀ p a, RAbuf p a (st.ss p) (st.as a)) (h2 : ∀ a, RSend a (st.as a))
    (h3 : ∀ a, AFresh st.answers a (st.as a)) (h4 : ∀ c a, RCans c a (st.cs c) (st.as a))
    (h5 : ∀ p c, RUrl st.bridge p c (st.ss p) (st.cs c)) (h6 : ∀ c, CFresh st.clients c (st.cs c)) :
    ResOK st := ⟨h1, fun a p => h2 a p, h3, h4, fun p c u => h5 p c u, h6⟩

theorem ResOK.unreferenced (hr : ResOK st) {a : Nat} (hd : (st.as a).pc ≠ .done) :
    (∀ q, (st.ss q).abuf ≠ some a) ∧ ∀ c, (st.cs c).res ≠ .answer a :=
  ⟨fun q e => hd (hr.abuf q a e).2.2, fun c e => let ⟨_, _, _, _, h⟩ := hr.cans c a e; hd h⟩

/-- Per case each field goes through the `upd_*` lemma for the maps the step rewrites: with the old fact where
the new record keeps what the field reads, `nofun` where it cannot meet the field's premise, a proof from
the guard otherwise.  An answer request that moves is not `done`, so nothing refers to it (`unreferenced`). -/
theorem res_step (hs : Step st l st') (h : ∀ q, SessOK (st.ss q)) (hl : LinkOK st) (hr : ResOK st) :
    ResOK st' := by
  have h1 : ∀ p a, RAbuf p a (st.ss p) (st.as a) := hr.abuf
  have h2 : ∀ a, RSend a (st.as a) := fun a p => hr.asend a p
  have h3 : ∀ a, AFresh st.answers a (st.as a) := hr.aabsent
  have h4 : ∀ c a, RCans c a (st.cs c) (st.as a) := hr.cans
  have h5 : ∀ p c, RUrl st.bridge p c (st.ss p) (st.cs c) := fun p c u => hr.url p c u
  have h6 : ∀ c, CFresh st.clients c (st.cs c) := hr.cabsent
  cases hs with
  | pollArrive p | add p | wTimer p | wCritRemove p | wCritLate p | wFwd p | hIdle p =>
    exact .of (upd_left h1 (h1 p)) h2 h3 h4 (upd_left h5 (h5 p)) h6
  | hRespondUrl p c u hh hb =>
    exact .of (upd_left h1 (h1 p)) h2 h3 h4 (upd_left h5 fun c' u' e => by cases e; exact hb) h6
  | hRespondNoBridge p | hRespondIdle p =>
    exact .of (upd_left h1 (h1 p)) h2 h3 h4 (upd_left h5 nofun) h6
  | wOffer p c | wLate p c | cFin c p =>
    exact .of (upd_left h1 (h1 p)) h2 h3 (upd_left h4 (h4 c)) (upd₂ h5 (fun _ _ hk => hk) (fun _ _ hk => hk) id)
      (upd_all h6 nofun)
  | cMatch c p hpc =>
    refine .of (upd_left h1 (h1 p)) h2 h3 (upd_left h4 fun a e => ?_)
      (upd₂ h5 (fun _ _ hk => hk) (fun _ _ hk => hk) id) (upd_all h6 nofun)
    have := hl.cres c (by rw [e]; simp); simp [hpc] at this
  | cReject c | cDeny c | cTimer c =>
    exact .of h1 h2 h3 (upd_left h4 nofun) (upd_right h5 fun p => h5 p c)
      (upd_all h6 nofun)
  | cRecv c p a hpc hb =>
    refine .of (upd_left h1 nofun) h2 h3 (upd_left h4 fun a' e => ?_)
      (upd₂ h5 (fun _ _ hk => hk) (fun _ _ hk => hk) id) (upd_all h6 nofun)
    cases e
    exact ⟨p, (hl.sf c p).mpr (hl.waitAnswer c p hpc).1, h1 p a hb⟩
  | clientArrive c nat fp hpc hn =>
    refine .of h1 h2 h3 (upd_left h4 (h4 c)) (upd_right h5 fun p u e => ?_)
      (upd_all_ne (fun c' hc e => by simp [h6 c' e, hc]) nofun)
    have := (hl.popBy c p ((h p).offer c ((h p).resMatched c u e))).1
    simp [hpc] at this
  | ansArrive a p hpc hn =>
    have hu := hr.unreferenced (a := a) (by simp [hpc])
    exact .of (upd_right h1 fun q e => absurd e (hu.1 q)) (upd_all h2 nofun)
      (upd_all_ne (fun a' ha e => by simp [h3 a' e, ha]) nofun)
      (upd_right h4 fun c e => absurd e (hu.2 c)) h5 h6
  | aLookupFound a hpc =>
    have hu := hr.unreferenced (a := a) (by simp [hpc])
    exact .of (upd_right h1 fun q e => absurd e (hu.1 q))
      (upd_all h2 fun q e => by cases e; exact ⟨rfl, rfl⟩) (upd_all h3 nofun)
      (upd_right h4 fun c e => absurd e (hu.2 c)) h5 h6
  | aLookupMissing a hpc | aSendDrop a _ _ hpc =>
    have hu := hr.unreferenced (a := a) (by simp [hpc])
    exact .of (upd_right h1 fun q e => absurd e (hu.1 q))
      (upd_all h2 nofun) (upd_all h3 nofun)
      (upd_right h4 fun c e => absurd e (hu.2 c)) h5 h6
  | aSendPut a p hpc hb =>
    have hu := hr.unreferenced (a := a) (by simp [hpc])
    have ⟨hsid, hok⟩ := h2 a p hpc
    exact .of
      (upd₂ h1 (fun q _ _ e => absurd e (hu.1 q)) (fun b hb' _ e => absurd (Option.some.inj e).symm hb')
        fun _ _ => ⟨hsid, hok, rfl⟩)
      (upd_all h2 nofun) (upd_all h3 nofun)
      (upd_right h4 fun c e => absurd e (hu.2 c)) (upd_left h5 (h5 p)) h6

/-! ## `ListOK`

It reads off a state only which polls are present (`h ≠ .absent`), which are in the map (`inMap`), and
`polls`, `gauge`.  A transition leaves the poll records alone, or replaces one record (`ListOK.upd`), or is
`pollArrive`, the only one that lengthens `polls` (`ListOK.push`, then `ListOK.upd`). -/

/-- number of polls registered in `idToSnowflake` -/
def mapCount (st : St) : Nat := (st.polls.filter (fun p => (st.ss p).inMap)).length

/-- C03 reads `mem` (the guards' `polls.all` sees every waiting poll), C04 `gauge`; `nodup` lets the count in
`gauge` move by one. -/
structure ListOK (st : St) : Prop where
  mem : ∀ p, (st.ss p).h ≠ .absent → p ∈ st.polls
  nodup : st.polls.Nodup
  gauge : st.gauge = (mapCount st : Int)

section
variable {p : Nat} {s' : Sess}

theorem ListOK.upd (hL : ListOK st) (hp : st'.polls = st.polls) (hs : st'.ss = upd st.ss p s')
    (hh : s'.h ≠ .absent → p ∈ st.polls) (hm : p ∉ st.polls → s'.inMap = (st.ss p).inMap)
    (hg : st'.gauge + (st.ss p).inMap.toNat = st.gauge + s'.inMap.toNat) : ListOK st' := by
  have hq : ∀ q, q ≠ p → st'.ss q = st.ss q := fun q hq => by rw [hs, upd_ne _ _ _ _ hq]
  have hpp : st'.ss p = s' := by rw [hs, upd_same]
  refine ⟨fun q hq' => ?_, hp ▸ hL.nodup, ?_⟩
  · rw [hp]
    by_cases e : q = p
    · exact e ▸ hh (hpp ▸ e ▸ hq')
    · exact hL.mem q (hq q e ▸ hq')
  · have hc := TotalMap.count_upd (f := fun q => (st.ss q).inMap) (g := fun q => (st'.ss q).inMap) hL.nodup
      (fun q hq' => congrArg Sess.inMap (hq q hq')) (hpp ▸ hm)
    have := hL.gauge
    unfold mapCount at *
    rw [hp]; rw [hpp] at hc
    omega

theorem ListOK.push (hL : ListOK st) (hn : p ∉ st.polls) (hm : (st.ss p).inMap = false) :
    ListOK { st with polls := st.polls ++ [p] } := by
  refine ⟨fun q hq => List.mem_append_left _ (hL.mem q hq), ?_, ?_⟩
  · exact List.nodup_append.mpr ⟨hL.nodup, List.pairwise_singleton _ p,
      fun a ha b hb e => hn (List.mem_singleton.mp hb ▸ e ▸ ha)⟩
  · simp [mapCount, hm, hL.gauge]

theorem list_step (hs : Step st l st')
    (h : ∀ q, SessOK (st.ss q)) (hl : LinkOK st) (hL : ListOK st) : ListOK st' := by
  cases hs with
  | pollArrive p nat n hh hn =>      -- absent, so not in the map: listed, then made present
    exact (hL.push hn ((h p).absent hh).2.2.1).upd rfl rfl
      (fun _ => List.mem_append_right _ (List.mem_singleton_self p)) (fun _ => rfl) rfl
  | add p hh =>                      -- listed, not yet in the map; map and gauge +1
    have hpm := hL.mem p (hh ▸ nofun)
    exact hL.upd rfl rfl (fun _ => hpm) (absurd hpm) (by simp [((h p).sendPolls hh).2.2.1])
  | wCritRemove p hw hi =>           -- in a heap: listed and in the map; both -1
    have hpm := hL.mem p (((h p).inHeap hi).1 ▸ nofun)
    exact hL.upd rfl rfl (fun _ => hpm) (absurd hpm) (by simp [((h p).inHeap hi).2.2.1])
  | cFin c p hpc =>                  -- in the map, so present, so listed; -1
    have hm := (hl.fin c p hpc).2.2.1
    have hpm := hL.mem p fun e => by simp [((h p).absent e).2.2.1] at hm
    exact hL.upd rfl rfl (fun _ => hpm) (absurd hpm) (by simp [hm])
  | wFwd p c hw hh | hIdle p hh | hRespondUrl p c u hh | hRespondNoBridge p c hh | hRespondIdle p hh =>
    exact hL.upd rfl rfl (fun _ => hL.mem p (hh ▸ nofun)) (fun _ => rfl) rfl   -- was present
  | wOffer p | wTimer p | wCritLate p | wLate p | cMatch _ p | cRecv _ p | aSendPut _ p =>
    exact hL.upd rfl rfl (hL.mem p) (fun _ => rfl) rfl      -- `h`, `inMap` kept
  | _ => exact ⟨hL.mem, hL.nodup, hL.gauge⟩

theorem present_upd {ss : Nat → Sess} (hp : (ss p).h ≠ .absent → s'.h ≠ .absent) (q : Nat)
    (hq : (ss q).h ≠ .absent) : (upd ss p s' q).h ≠ .absent := by
  unfold upd; split
  · next e => exact hp (e ▸ hq)
  · exact hq

/-- A poll that has arrived never becomes absent again. -/
theorem h_absent_frame (l : Lab) (hs : step true st l = some st') :
    ∀ q, (st.ss q).h ≠ .absent → (st'.ss q).h ≠ .absent := by
  cases Step.of_step hs with
  | pollArrive | add | wFwd | hIdle | hRespondUrl | hRespondNoBridge | hRespondIdle =>
    exact present_upd fun _ => nofun
  | wOffer | wTimer | wCritRemove | wCritLate | wLate | cMatch | cRecv | cFin | aSendPut =>
    exact present_upd id
  | _ => exact fun _ => id

end

/-! ## `Inv` and `Reachable` -/

/-- Preserved only together: `sess_step` and `link_step` need each other's bundle, `res_step` and `list_step` both. -/
structure Inv (st : St) : Prop where
  sess : ∀ q, SessOK (st.ss q)
  link : LinkOK st
  res : ResOK st
  list : ListOK st

/-- States reachable from the initial state of a broker with bridge list `bridge` by any labels
(any arrivals, any interleaving, any timer firings). -/
inductive Reachable (bridge : Nat → Option Nat) : St → Prop
  | init : Reachable bridge (init bridge)
  | step {st st' : St} (l : Lab) : Reachable bridge st → step true st l = some st' → Reachable bridge st'

theorem inv_init (bridge : Nat → Option Nat) : Inv (init bridge) := by
  refine ⟨fun _ => sessOK_default, ?_, ?_, ?_⟩
  · constructor <;> simp [init]
  · constructor <;> simp [init]
  · constructor <;> simp [init, mapCount]

theorem inv_step {st st' : St} (l : Lab) (hs : step true st l = some st') (hi : Inv st) : Inv st' :=
  have hs' := Step.of_step hs
  ⟨sess_step hs' hi.sess hi.link, link_step hs' hi.sess hi.link, res_step hs' hi.sess hi.link hi.res,
    list_step hs' hi.sess hi.link hi.list⟩

theorem inv_reachable {bridge : Nat → Option Nat} (h : Reachable bridge st) : Inv st := by
  induction h with
  | init => exact inv_init bridge
  | step l _ hs ih => exact inv_step l hs ih

theorem bridge_step (hs : step true st l = some st') : st'.bridge = st.bridge := by
  cases Step.of_step hs <;> rfl

theorem bridge_reachable {bridge : Nat → Option Nat} (h : Reachable bridge st) : st.bridge = bridge := by
  induction h with
  | init => rfl
  | step _ _ hs ih => rw [bridge_step hs, ih]

theorem runL_eq (fixed : Bool) (st : St) (ls : List Lab) :
    runL fixed st ls = TotalMap.runL (step fixed) st ls := by
  fun_induction runL fixed st ls <;> simp_all [TotalMap.runL]

theorem reachable_runL {bridge : Nat → Option Nat} : ∀ (ls : List Lab) (st st' : St), Reachable bridge st →
    runL true st ls = some st' → Reachable bridge st' := by
  intro ls st st' h hr
  exact TotalMap.runL_inv (Reachable bridge) (fun _ => True) (fun _ l _ h _ hs => .step l h hs) ls h
    (fun _ _ => trivial) (runL_eq .. ▸ hr)

end Snowflake.Broker
