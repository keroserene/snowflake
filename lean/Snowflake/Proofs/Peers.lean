import Snowflake.Model.Peers
/-!
Invariants of the peer-pool LTS (`Model/Peers.lean`): `Safe` holds in every reachable state for every
`Fix`, `Fixed` in addition once `f8` and `f10` are repaired.  Preservation goes by cases on `Step` (`step`
as rules) from one lemma per kind of move; `{ hi with … }` carries over the clauses that do not read
what a rule writes.
-/
namespace Snowflake.Peers
open Snowflake.TotalMap

variable {fx : Fix} {max : Nat} {s s' : St} {l : Lab} {c e : Nat}

/-- the program counters at which a `Collect` goroutine holds `collectLock` -/
def CPC.holds : CPC → Bool
  | .locked => true | .catching => true | .sending _ => true | _ => false

/-- `Catch` in flight or peer not yet handed over -/
def CPC.busy : CPC → Bool
  | .catching => true | .sending _ => true | _ => false

theorem busy_holds (pc : CPC) (h : pc.busy = true) : pc.holds = true := by
  cases pc <;> simp_all [CPC.busy, CPC.holds]

/-- `len`, `room`: capacity.  `lockC`–`ownE`: `lock` names its holder and nobody else, in both directions.
`tracked`, `handed`: every open peer is held; `Pop` handed over open ones.  `meltE`–`onceDone`: `melt` is
closed before `End` takes the lock; what `endDone` implies (`done…`) and what implies it. -/
structure Safe (max : Nat) (s : St) : Prop where
  len : s.active.length ≤ max
  room : ∀ c, s.col c = .catching → s.active.length < max
  lockC : ∀ c, (s.col c).holds = true → s.lock = some (.col c)
  lockE : ∀ e, s.ends e = .locked → s.lock = some (.fin e)
  ownC : ∀ c, s.lock = some (.col c) → (s.col c).holds = true
  ownE : ∀ e, s.lock = some (.fin e) → s.ends e = .locked
  tracked : ∀ p, p < s.next → s.closedP p = false → p ∈ s.active
  handed : ∀ x ∈ s.handed, x.2 = false
  meltE : ∀ e, (s.ends e = .wantLock ∨ s.ends e = .locked ∨ s.ends e = .done) → s.melt = true
  doneMelt : s.endDone = true → s.melt = true
  doneChan : s.endDone = true → s.chanClosed = true
  doneActive : s.endDone = true → s.active = []
  doneClosed : s.endDone = true → ∀ p, p < s.next → s.closedP p = true
  doneBusy : s.endDone = true → ∀ c, (s.col c).busy = false
  chanDone : s.chanClosed = true → s.endDone = true
  endsDone : ∀ e, s.ends e = .done → s.endDone = true
  onceDone : s.once = .complete → s.endDone = true

theorem safe_init (max : Nat) : Safe max init := by
  constructor <;> simp [init, CPC.holds]

theorem purge_length_le (cl : Nat → Bool) (a : List Nat) : (purge cl a).length ≤ a.length :=
  List.length_filter_le _ _

theorem mem_purge (cl : Nat → Bool) (a : List Nat) (p : Nat) : p ∈ purge cl a ↔ p ∈ a ∧ cl p = false := by
  simp [purge]

inductive Step (fx : Fix) (max : Nat) (s : St) : Lab → St → Prop
  | cCall c (h : s.col c = .absent) : Step fx max s (.cCall c) { s with col := upd s.col c .wantLock }
  | cLock c (h : s.col c = .wantLock) (hl : s.lock = none) :
    Step fx max s (.cLock c) { s with col := upd s.col c .locked, lock := some (.col c) }
  | cCheckMelted c (h : s.col c = .locked) (hm : s.melt = true) :
    Step fx max s (.cCheck c) { s with col := upd s.col c (.ret .melted), lock := none }
  | cCheckFull c (h : s.col c = .locked) (hm : s.melt = false) (hf : (purge s.closedP s.active).length ≥ max) :
    Step fx max s (.cCheck c)
      { s with active := purge s.closedP s.active, col := upd s.col c (.ret .capacity), lock := none }
  | cCheckRoom c (h : s.col c = .locked) (hm : s.melt = false) (hf : (purge s.closedP s.active).length < max) :
    Step fx max s (.cCheck c)
      { s with active := purge s.closedP s.active, col := upd s.col c .catching, catches := s.catches + 1 }
  | cCatchOk c e (h : s.col c = .catching) (ho : connect fx.f10 e = .ok) :
    Step fx max s (.cCatch c e)
      { s with active := s.active ++ [s.next], next := s.next + 1, col := upd s.col c (.sending s.next) }
  | cCatchErr c e (h : s.col c = .catching) (ho : connect fx.f10 e = .err) :
    Step fx max s (.cCatch c e) { s with col := upd s.col c (.ret .catchErr), lock := none }
  | cCatchPanic c e (h : s.col c = .catching) (ho : connect fx.f10 e = .panic) :
    Step fx max s (.cCatch c e)
      { s with col := upd s.col c (.ret .panicked), lock := none, panic := setPanic s .nilDeref }
  | cSendClosed c p (h : s.col c = .sending p) (hc : s.chanClosed = true) :
    Step fx max s (.cSend c)
      { s with col := upd s.col c (.ret .panicked), lock := none, panic := setPanic s .sendOnClosed }
  | cSend c p (h : s.col c = .sending p) (hc : s.chanClosed = false) (hr : s.chan.length < max) :
    Step fx max s (.cSend c) { s with chan := s.chan ++ [p], col := upd s.col c (.ret (.ok p)), lock := none }
  | cMeltArm c p (h : s.col c = .sending p) (hf : fx.f9 = true) (hm : s.melt = true) :
    Step fx max s (.cMeltArm c) { s with col := upd s.col c (.ret .melted), lock := none }
  | lTimer c r (h : s.col c = .ret r) : Step fx max s (.lTimer c) { s with col := upd s.col c .wantLock }
  | lMelted c r (h : s.col c = .ret r) (hm : s.melt = true) :
    Step fx max s (.lMelted c) { s with col := upd s.col c .stopped }
  | pCall q (h : s.pop q = .absent) : Step fx max s (.pCall q) { s with pop := upd s.pop q .recv }
  | pRecv q p rest (h : s.pop q = .recv) (hc : s.chan = p :: rest) :
    Step fx max s (.pRecv q) { s with chan := rest, pop := upd s.pop q (.check p) }
  | pRecvClosed q (h : s.pop q = .recv) (hc : s.chan = []) (hcl : s.chanClosed = true) :
    Step fx max s (.pRecv q) { s with pop := upd s.pop q .gotNil }
  | pCheckSkip q p (h : s.pop q = .check p) (hcl : s.closedP p = true) :
    Step fx max s (.pCheck q) { s with pop := upd s.pop q .recv }
  | pCheckGot q p (h : s.pop q = .check p) (hcl : s.closedP p = false) :
    Step fx max s (.pCheck q) { s with pop := upd s.pop q (.got p), handed := (p, s.closedP p) :: s.handed }
  | pAgain q (h : s.pop q = .gotNil ∨ ∃ p, s.pop q = .got p) :
    Step fx max s (.pAgain q) { s with pop := upd s.pop q .recv }
  | eCallFirst e (h : s.ends e = .absent) (hf : fx.f8 = true) (ho : s.once = .fresh) :
    Step fx max s (.eCall e) { s with once := .running e, ends := upd s.ends e .closeMelt }
  | eCallWait e r (h : s.ends e = .absent) (hf : fx.f8 = true) (ho : s.once = .running r) :
    Step fx max s (.eCall e) { s with ends := upd s.ends e .waitOnce }
  | eCallDone e (h : s.ends e = .absent) (hf : fx.f8 = true) (ho : s.once = .complete) :
    Step fx max s (.eCall e) { s with ends := upd s.ends e .done }
  | eCallBare e (h : s.ends e = .absent) (hf : fx.f8 = false) :
    Step fx max s (.eCall e) { s with ends := upd s.ends e .closeMelt }
  | eMeltClosed e (h : s.ends e = .closeMelt) (hm : s.melt = true) :
    Step fx max s (.eMelt e) { s with ends := upd s.ends e .panicked, panic := setPanic s .closeClosedMelt }
  | eMelt e (h : s.ends e = .closeMelt) (hm : s.melt = false) :
    Step fx max s (.eMelt e) { s with melt := true, ends := upd s.ends e .wantLock }
  | eLock e (h : s.ends e = .wantLock) (hl : s.lock = none) :
    Step fx max s (.eLock e) { s with ends := upd s.ends e .locked, lock := some (.fin e) }
  | eCritClosed e (h : s.ends e = .locked) (hc : s.chanClosed = true) :
    Step fx max s (.eCrit e)
      { s with ends := upd s.ends e .panicked, lock := none, panic := setPanic s .closeClosedChan }
  | eCrit e (h : s.ends e = .locked) (hc : s.chanClosed = false) :
    Step fx max s (.eCrit e)
      { s with chanClosed := true, closedP := fun p => s.closedP p || s.active.contains p, active := [],
               ends := upd s.ends e .done, lock := none,
               once := if fx.f8 then .complete else s.once, endDone := true }
  | eOnce e (h : s.ends e = .waitOnce) (ho : s.once = .complete) :
    Step fx max s (.eOnce e) { s with ends := upd s.ends e .done }
  | peerClose p (h : p < s.next) : Step fx max s (.peerClose p) { s with closedP := upd s.closedP p true }
  | count : Step fx max s .count { s with active := purge s.closedP s.active }

theorem Step.of_step (hs : step fx max s l = some s') : Step fx max s l s' := by
  cases l with
  | eCrit e =>
    -- two splits only: the `if fx.f8` inside the successor state stays
    simp only [step] at hs
    split at hs
    · split at hs <;> cases hs <;> constructor <;> simp_all
    · cases hs
  | _ =>
    simp only [step] at hs <;> (repeat' split at hs) <;> cases hs <;> constructor <;>
    first | assumption | simp_all

namespace Safe

theorem purged (hi : Safe max s) : Safe max { s with active := purge s.closedP s.active } :=
  { hi with
    len := Nat.le_trans (purge_length_le ..) hi.len
    room := fun c h => Nat.lt_of_le_of_lt (purge_length_le ..) (hi.room c h)
    tracked := fun p hp hc => (mem_purge ..).2 ⟨hi.tracked p hp hc, hc⟩
    doneActive := fun h => by simp [hi.doneActive h, purge] }

theorem setCol (hi : Safe max s) {pc₀ : CPC} (h : s.col c = pc₀) (pc : CPC)
    (hroom : pc = .catching → s.active.length < max) (hbusy : pc.busy = true → s.endDone = false)
    (hh : pc.holds = pc₀.holds := by rfl) : Safe max { s with col := upd s.col c pc } :=
  { hi with
    room := by grind [upd, hi.room]
    lockC := by grind [upd, hi.lockC]
    ownC := by grind [upd, hi.ownC]
    doneBusy := by grind [upd, hi.doneBusy] }

theorem colRelease (hi : Safe max s) {pc₀ : CPC} (h : s.col c = pc₀) (r : Res)
    (hold : pc₀.holds = true := by rfl) : Safe max { s with col := upd s.col c (.ret r), lock := none } :=
  -- `c` held the lock, so nobody else did
  have hl := hi.lockC c (h ▸ hold)
  { hi with
    room := by grind [upd, hi.room]
    lockC := by have := hi.lockC; grind [upd, CPC.holds]
    lockE := by have := hi.lockE; grind
    ownC := by grind
    ownE := by grind
    doneBusy := by grind [upd, CPC.busy, hi.doneBusy] }

theorem setEnds (hi : Safe max s) {pc₀ : EPC} (h : s.ends e = pc₀) (pc : EPC)
    (hmelt : pc = .wantLock → s.melt = true) (hdone : pc = .done → s.endDone = true)
    (h₀ : pc₀ ≠ .locked := by decide) (hpc : pc ≠ .locked := by decide) :
    Safe max { s with ends := upd s.ends e pc } :=
  { hi with
    lockE := by grind [upd, hi.lockE]
    ownE := by grind [upd, hi.ownE]
    meltE := by grind [upd, hi.meltE, hi.doneMelt]
    endsDone := by grind [upd, hi.endsDone] }

theorem endRelease (hi : Safe max s) (h : s.ends e = .locked) (pc : EPC)
    (hdone : pc = .done → s.endDone = true) (hpc : pc ≠ .locked := by decide) :
    Safe max { s with ends := upd s.ends e pc, lock := none } :=
  have hl := hi.lockE e h
  { hi with
    lockC := by have := hi.lockC; grind
    lockE := by have := hi.lockE; grind [upd]
    ownC := by grind
    ownE := by grind
    meltE := by grind [hi.meltE]
    endsDone := by grind [upd, hi.endsDone] }

end Safe

theorem Step.safe (hi : Safe max s) (h : Step fx max s l s') : Safe max s' := by
  cases h with
  | cCall c h | lTimer c _ h => exact hi.setCol h .wantLock nofun nofun
  | lMelted c r h => exact hi.setCol h .stopped nofun nofun
  | cLock c h hl =>
    exact { hi with
      room := by grind [upd, hi.room]
      lockC := by grind [upd, hi.lockC]
      lockE := by grind [hi.lockE]
      ownC := by grind [upd, CPC.holds]
      ownE := by grind
      doneBusy := by grind [upd, CPC.busy, hi.doneBusy] }
  | cCheckMelted c h | cCatchErr c _ h | cCatchPanic c _ h | cSendClosed c _ h | cSend c _ h | cMeltArm c _ h =>
    exact { hi.colRelease h _ with }
  | cCheckFull c h => exact hi.purged.colRelease h _
  | cCheckRoom c h hm hf =>
    have hd : s.endDone = false := by grind [hi.doneMelt]
    exact { hi.purged.setCol h .catching (fun _ => hf) (fun _ => hd) with }
  | cCatchOk c e h =>
    have hd : s.endDone = false := by grind [CPC.busy, hi.doneBusy]
    have hlen := hi.room c h
    -- `c` holds the lock, so nobody else is catching
    exact { hi.setCol h (.sending s.next) nofun (fun _ => hd) with
      len := by simp; omega
      room := by have := hi.lockC; grind [upd, CPC.holds]
      tracked := by grind [hi.tracked]
      doneActive := by simp [hd]
      doneClosed := by simp [hd] }
  | pCheckGot q p h hcl => exact { hi with handed := by simpa [hcl] using hi.handed }
  | eCallFirst e h => exact { hi.setEnds h .closeMelt nofun nofun with onceDone := nofun }
  | eCallWait e _ h => exact hi.setEnds h .waitOnce nofun nofun
  | eCallBare e h => exact hi.setEnds h .closeMelt nofun nofun
  | eCallDone e h _ ho | eOnce e h ho => exact hi.setEnds h .done nofun (fun _ => hi.onceDone ho)
  | eMeltClosed e h => exact { hi.setEnds h .panicked nofun nofun with }
  | eMelt e h =>
    have h1 : Safe max { s with melt := true } := { hi with meltE := fun _ _ => rfl, doneMelt := fun _ => rfl }
    exact h1.setEnds h .wantLock (fun _ => rfl) nofun
  | eLock e h hl =>
    exact { hi with
      lockC := by grind [hi.lockC]
      lockE := by grind [upd, hi.lockE]
      ownC := by grind
      ownE := by grind [upd]
      meltE := by grind [hi.meltE]
      endsDone := by grind [upd, hi.endsDone] }
  | eCritClosed e h => exact { hi.endRelease h .panicked nofun with }
  | eCrit e h =>
    -- `e` holds the lock, so no collector is past `Lock()`
    have hl := hi.lockE e h
    have hb : ∀ c, (s.col c).busy = false := by have := hi.lockC; have := busy_holds; grind
    have h1 : Safe max
        { s with chanClosed := true, closedP := fun p => s.closedP p || s.active.contains p, active := [],
                 once := if fx.f8 then .complete else s.once, endDone := true } :=
      { hi with
        len := Nat.zero_le _
        room := by have := hi.lockC; grind [CPC.holds]
        tracked := by grind [hi.tracked]
        doneMelt := fun _ => hi.meltE e (.inr (.inl h))
        doneChan := fun _ => rfl
        doneActive := fun _ => rfl
        doneClosed := by grind [hi.tracked]
        doneBusy := fun _ => hb
        chanDone := fun _ => rfl
        endsDone := fun _ _ => rfl
        onceDone := fun _ => rfl }
    exact h1.endRelease h .done (fun _ => rfl)
  | peerClose p h =>
    exact { hi with
      tracked := by grind [upd, hi.tracked]
      doneClosed := by grind [upd, hi.doneClosed] }
  | count => exact hi.purged
  | _ => exact { hi with }    -- the other `Pop` rules: only `chan`, `pop`

theorem safe_reachable (h : Reachable fx max s) : Safe max s :=
  Reach.inv (Safe max) (safe_init max) (fun _ _ _ _ hi hs => (Step.of_step hs).safe hi) h

/-! ## The repaired skeleton (`Fix.all`) -/

/-- the program counters at which an `End` goroutine is executing the body of `End` -/
def EPC.inBody : EPC → Bool
  | .closeMelt => true | .wantLock => true | .locked => true | _ => false

/-- `runner`, `running`: the `Once` is `running e` exactly while `e` executes the body.  `meltOpen`,
`freshMelt`: `melt` stays open until the runner closes it.  `waiting`, `doneOnce`: a waiter's `Once` has
started; it is complete once an `End` has returned. -/
structure Fixed (s : St) : Prop where
  noPanic : s.panic = none
  runner : ∀ e, (s.ends e).inBody = true → s.once = .running e
  running : ∀ e, s.once = .running e → (s.ends e).inBody = true
  meltOpen : ∀ e, s.ends e = .closeMelt → s.melt = false
  waiting : ∀ e, s.ends e = .waitOnce → s.once ≠ .fresh
  noEndPanic : ∀ e, s.ends e ≠ .panicked
  doneOnce : s.endDone = true → s.once = .complete
  freshMelt : s.once = .fresh → s.melt = false

theorem fixed_init : Fixed init := by
  constructor <;> simp [init, EPC.inBody]

theorem connect_fixed (e : CatchEnv) : connect true e = if e = .ok then .ok else .err := by
  cases e <;> rfl

theorem Fixed.setEnds (hi : Fixed s) {pc₀ : EPC} (h : s.ends e = pc₀) (pc : EPC)
    (hm : pc = .closeMelt → s.melt = false) (hw : pc = .waitOnce → s.once ≠ .fresh)
    (hb : pc.inBody = pc₀.inBody := by rfl) (hp : pc ≠ .panicked := by decide) :
    Fixed { s with ends := upd s.ends e pc } :=
  { hi with
    runner := by grind [upd, hi.runner]
    running := by grind [upd, hi.running]
    meltOpen := by grind [upd, hi.meltOpen]
    waiting := by grind [upd, hi.waiting]
    noEndPanic := by grind [upd, hi.noEndPanic] }

/-- `f9` plays no part; the four rules that panic are never enabled. -/
theorem Step.fixed (h8 : fx.f8 = true) (h10 : fx.f10 = true)
    (hsafe : Safe max s) (hi : Fixed s) (h : Step fx max s l s') : Fixed s' := by
  cases h with
  | cCatchPanic c e h ho => grind [connect_fixed]
  | cSendClosed c p h hc =>
    have := hsafe.doneBusy (hsafe.chanDone hc) c
    simp [h, CPC.busy] at this
  | eMeltClosed e h hm => simp [hi.meltOpen e h] at hm
  | eCritClosed e h hc =>
    have := hi.runner e (by rw [h]; rfl)
    simp [hi.doneOnce (hsafe.chanDone hc)] at this
  | eCallFirst e h _ ho =>
    exact { hi with
      runner := by grind [upd, hi.runner]
      running := by grind [upd, EPC.inBody]
      meltOpen := by grind [hi.meltOpen, hi.freshMelt]
      waiting := by simp
      noEndPanic := by grind [upd, hi.noEndPanic]
      doneOnce := by grind [hi.doneOnce]
      freshMelt := nofun }
  | eCallWait e r h _ ho => exact hi.setEnds h .waitOnce nofun (by simp [ho])
  | eCallDone e h | eOnce e h => exact hi.setEnds h .done nofun nofun
  | eCallBare _ _ hf => simp [h8] at hf
  | eMelt e h =>
    -- `e` is the `Once` runner, so nobody else is at `close(p.melt)`
    have hr := hi.runner e (by rw [h]; rfl)
    exact { hi.setEnds h .wantLock nofun nofun with
      meltOpen := by have := hi.runner; grind [upd, EPC.inBody]
      freshMelt := by simp [hr] }
  | eLock e h => exact { hi.setEnds h .locked nofun nofun with }
  | eCrit e h =>
    -- `e` is the `Once` runner, so with `e` done nobody is in the body
    have hb : ∀ e', (upd s.ends e .done e').inBody = false := by have := hi.runner; grind [upd, EPC.inBody]
    exact { hi with
      runner := by simp [hb]
      running := by simp [h8]
      meltOpen := by grind [EPC.inBody]
      waiting := by simp [h8]
      noEndPanic := by grind [upd, hi.noEndPanic]
      doneOnce := by simp [h8]
      freshMelt := by simp [h8] }
  | _ => exact { hi with }    -- writes nothing `Fixed` reads

theorem fixed_reachable (h8 : fx.f8 = true) (h10 : fx.f10 = true) (h : Reachable fx max s) : Fixed s :=
  Reach.inv Fixed fixed_init (fun _ _ _ hr hi hs => (Step.of_step hs).fixed h8 h10 (safe_reachable hr) hi) h

/-! ## Progress of `End` in the repaired skeleton -/

/-- What the current holder of `collectLock` does until it releases the lock, if the `Catch` that may
be in flight ends as `o`. -/
def holderSched (s : St) (o : CatchEnv) : List Lab :=
  match s.lock with
  | some (.col c) =>
    match s.col c with
    | .locked => [.cCheck c]
    | .catching => if connect true o = .ok then [.cCatch c o, .cMeltArm c] else [.cCatch c o]
    | .sending _ => [.cMeltArm c]
    | _ => []
  | _ => []

/-- The rest of the body of `End` run by goroutine `r`. -/
def bodySched (s : St) (r : Nat) (o : CatchEnv) : List Lab :=
  match s.ends r with
  | .closeMelt => .eMelt r :: (holderSched s o ++ [.eLock r, .eCrit r])
  | .wantLock => holderSched s o ++ [.eLock r, .eCrit r]
  | .locked => [.eCrit r]
  | _ => []

/-- A schedule that lets `End` goroutine `e` return: only `e` itself, the `Once` runner and the
current lock holder move. -/
def endSched (s : St) (e : Nat) (o : CatchEnv) : List Lab :=
  match s.ends e with
  | .waitOnce => (match s.once with | .running r => bodySched s r o | _ => []) ++ [.eOnce e]
  | _ => bodySched s e o

/-- `melt` is closed, so the lock holder (if any) returns within two steps; then `r` takes the lock. -/
theorem want_lock_completes (r : Nat) (o : CatchEnv) (hsafe : Safe max s) (hw : s.ends r = .wantLock)
    (hfin : ∀ e, s.lock ≠ some (.fin e)) (hnc : s.chanClosed = false) :
    ∃ s', run Fix.all max s (holderSched s o ++ [.eLock r, .eCrit r]) = some s' ∧
      s'.ends = upd s.ends r .done ∧ s'.once = .complete := by
  have hmelt := hsafe.meltE r (.inl hw)
  unfold holderSched
  match hl : s.lock with
  | none => simp [runL, step, hw, hl, hnc, Fix.all]
  | some (.fin e) => exact absurd hl (hfin e)
  | some (.col c) =>
    have hh := hsafe.ownC c hl
    cases hc : s.col c with
    | catching =>
      by_cases h : o = .ok <;> simp [runL, step, hc, hmelt, hw, hnc, h, connect_fixed, Fix.all]
    | locked | sending => simp [runL, step, hc, hmelt, hw, hnc, Fix.all]
    | _ => simp [hc, CPC.holds] at hh

theorem body_completes (r : Nat) (o : CatchEnv) (hsafe : Safe max s) (hfx : Fixed s)
    (hb : (s.ends r).inBody = true) :
    ∃ s', run Fix.all max s (bodySched s r o) = some s' ∧ s'.ends = upd s.ends r .done ∧
      s'.once = .complete := by
  have hrun := hfx.runner r hb
  -- `r` is the `Once` runner: the channel is open and no other `End` holds the lock
  have hnc : s.chanClosed = false := by grind [hfx.doneOnce, hsafe.chanDone]
  have hfin : ∀ e, s.ends r ≠ .locked → s.lock ≠ some (.fin e) := by
    have := hsafe.ownE; have := hfx.runner; grind [EPC.inBody]
  unfold bodySched
  cases hr : s.ends r with
  | locked => simp [runL, step, hr, hnc, Fix.all]
  | wantLock => exact want_lock_completes r o hsafe hr (fun e => hfin e (by simp [hr])) hnc
  | closeMelt =>
    let s0 : St := { s with melt := true, ends := upd s.ends r .wantLock }
    have hstep : step Fix.all max s (.eMelt r) = some s0 := by simp [step, hr, hfx.meltOpen r hr, s0]
    -- the holder's schedule reads neither `melt` nor `ends`
    obtain ⟨s2, h2, he2, ho2⟩ := want_lock_completes (s := s0) r o ((Step.of_step hstep).safe hsafe)
      (by simp [s0]) (fun e => hfin e (by simp [hr])) hnc
    exact ⟨s2, by simp only [runL_cons, hstep]; exact h2, by simp [he2, s0], ho2⟩
  | _ => simp [hr, EPC.inBody] at hb

theorem end_sched_completes (e : Nat) (o : CatchEnv) (hsafe : Safe max s) (hfx : Fixed s)
    (hp : (s.ends e).pending = true) :
    ∃ s', run Fix.all max s (endSched s e o) = some s' ∧ s'.ends e = .done := by
  unfold endSched
  cases he : s.ends e with
  | waitOnce =>
    cases ho : s.once with
    | fresh => exact absurd ho (hfx.waiting e he)
    | complete => simp [runL, step, he, ho]
    | running r =>
      have hb := hfx.running r ho
      have hne : e ≠ r := fun h => by simp [← h, he, EPC.inBody] at hb
      obtain ⟨s1, h1, he1, ho1⟩ := body_completes r o hsafe hfx hb
      simp [runL_append, h1, runL, step, he1, ho1, hne, he]
  | closeMelt | wantLock | locked =>
    obtain ⟨s1, h1, he1, _⟩ := body_completes e o hsafe hfx (by rw [he]; rfl)
    exact ⟨s1, h1, by simp [he1]⟩
  | _ => simp [he, EPC.pending] at hp

theorem end_sched_shape (s : St) (e : Nat) (o : CatchEnv) :
    (endSched s e o).length ≤ 6 ∧ (∀ l ∈ endSched s e o, l.isPop = false) ∧
      ((endSched s e o).filter Lab.isCatch).length ≤ 1 := by
  unfold endSched bodySched holderSched
  repeat' split
  all_goals simp [Lab.isPop, Lab.isCatch, List.filter]

/-! ## The F9 deadlock of the pinned skeleton is permanent -/

def Lab.isRecv : Lab → Bool
  | .pRecv _ => true | _ => false

theorem Lab.isRecv_eq_false_of_isPop_eq_false (h : l.isPop = false) : l.isRecv = false := by
  cases l <;> first | rfl | cases h

/-- The F9 situation: collector `c` holds `collectLock` at the hand-over send, the channel is full
and open, and `End` goroutine `e` has closed `melt` and waits for the lock.  (`sending` says
`s.col c = .sending p` for some `p`, without the quantifier.) -/
structure F9Stuck (max : Nat) (s : St) (c e : Nat) : Prop where
  lock : s.lock = some (.col c)
  sending : (s.col c).busy = true ∧ s.col c ≠ .catching
  full : max ≤ s.chan.length
  chanOpen : s.chanClosed = false
  waiting : s.ends e = .wantLock

theorem Step.f9Stuck (hf9 : fx.f9 = false)
    (hsafe : Safe max s) (hst : F9Stuck max s c e) (h : Step fx max s l s') (hl : l.isRecv = false) :
    F9Stuck max s' c e := by
  have hlock := hst.lock
  have hsend := hst.sending
  -- a collector at a lock-holding program counter is `c`, and `c` is at the send
  have hc : ∀ c', (s.col c').holds = true → s.col c' ≠ .locked ∧ s.col c' ≠ .catching := by
    intro c' h'; have := hsafe.lockC c' h'; grind [CPC.busy]
  have he : ∀ e', s.ends e' ≠ .locked := by intro e' h'; have := hsafe.lockE e' h'; grind
  cases h with
  | cCall c' h | lTimer c' _ h | lMelted c' _ h => exact { hst with sending := by grind [upd, CPC.busy] }
  | cLock _ _ hl' | eLock _ _ hl' => simp [hl'] at hlock
  | cCheckMelted c' h | cCheckFull c' h | cCheckRoom c' h => exact absurd h (hc c' (by rw [h]; rfl)).1
  | cCatchOk c' _ h | cCatchErr c' _ h | cCatchPanic c' _ h => exact absurd h (hc c' (by rw [h]; rfl)).2
  | cSendClosed _ _ _ hcl => simp [hst.chanOpen] at hcl
  | cSend _ _ _ _ hr => exact absurd hst.full (by omega)
  | cMeltArm _ _ _ hf => simp [hf] at hf9
  | pRecv | pRecvClosed => cases hl
  | eCallFirst e' h | eCallWait e' _ h | eCallDone e' h | eCallBare e' h | eMeltClosed e' h | eMelt e' h
  | eOnce e' h => exact { hst with waiting := by grind [upd, hst.waiting] }
  | eCritClosed e' h | eCrit e' h => exact absurd h (he e')
  | _ => exact { hst with }    -- writes nothing `F9Stuck` reads

theorem F9Stuck.run (hf9 : fx.f9 = false)
    (hr : Reachable fx max s) (hst : F9Stuck max s c e) (ls : List Lab) (hall : ∀ l ∈ ls, l.isRecv = false)
    (hrun : run fx max s ls = some s') : F9Stuck max s' c e :=
  (runL_inv (fun s => Reachable fx max s ∧ F9Stuck max s c e) (fun l => l.isRecv = false)
    (fun _ l _ hi hl hs => ⟨Reach.step l hi.1 hs, (Step.of_step hs).f9Stuck hf9 (safe_reachable hi.1) hi.2 hl⟩)
    ls ⟨hr, hst⟩ hall hrun).2

end Snowflake.Peers
