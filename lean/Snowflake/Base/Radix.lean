/-!
The digits of a number in base `b` put together again (two digits: `Nat.div_add_mod'`).  The codecs cut values into
groups of 4 or 6 bits (`\uXXXX`, base 64, UTF-8); at `b = 16, 64` the products below are the literals that stand in
their models, and the statements are used up to that evaluation.
-/
namespace Snowflake

theorem radix3 (b n : Nat) : n / (b * b) * (b * b) + n / b % b * b + n % b = n := by
  rw [← Nat.div_div_eq_div_mul, ← Nat.mul_assoc, ← Nat.add_mul, Nat.div_add_mod', Nat.div_add_mod']

theorem radix4 (b n : Nat) :
    n / (b * b * b) * (b * b * b) + n / (b * b) % b * (b * b) + n / b % b * b + n % b = n := by
  have h := radix3 b (n / b)
  rw [Nat.div_div_eq_div_mul, Nat.div_div_eq_div_mul, ← Nat.mul_assoc b] at h
  rw [← Nat.mul_assoc _ (b * b) b, ← Nat.mul_assoc (n / (b * b) % b) b b, ← Nat.add_mul, ← Nat.add_mul, h, Nat.div_add_mod']

end Snowflake
