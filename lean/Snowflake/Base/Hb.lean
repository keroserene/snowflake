/-
Event traces with mutexes / reader-writer mutexes and the lockset theorems (C20).  Core-only.

A trace is a list of events `(thread, op)`.  Lock usage is well formed when
  * a lock is acquired exclusively only while nobody holds it (neither exclusively nor shared),
  * it is acquired shared only while nobody holds it exclusively,
  * it is released only by its exclusive holder
(what `sync.Mutex` / `sync.RWMutex` guarantee together with the lock/unlock pairing of the source).
The theorems: two accesses by different threads that both happen while their threads hold a common
lock, at least one of them exclusively, are ordered by an explicit happens-before chain
  access i  ≤po  release r  <sync  acquire a  ≤po  access j
so they cannot race.
-/
namespace Snowflake.Hb

inductive Op
  | acq (l : String)       -- Lock
  | rel (l : String)       -- Unlock
  | racq (l : String)      -- RLock
  | rrel (l : String)      -- RUnlock
  | rd (v : String)
  | wr (v : String)
  | ard (v : String)       -- atomic load
  | awr (v : String)       -- atomic store / RMW
deriving DecidableEq, Repr

structure Ev where
  tid : Nat
  op : Op
deriving DecidableEq, Repr

abbrev Trace := List Ev

/-- Some thread releases `l` (exclusive mode) at index `k`. -/
def isRel (τ : Trace) (l : String) (k : Nat) : Prop := ∃ t, τ[k]? = some ⟨t, .rel l⟩

/-- Thread `t` holds `l` exclusively just before index `i`: it acquired it at some `a < i` and nobody
released it in between. -/
def Holds (τ : Trace) (t : Nat) (l : String) (i : Nat) : Prop :=
  ∃ a, a < i ∧ τ[a]? = some ⟨t, .acq l⟩ ∧ ∀ k, a < k → k < i → ¬ isRel τ l k

/-- Thread `t` holds `l` in shared mode just before index `i`: it r-acquired it at some `a < i` and has
not r-released it since. -/
def HoldsR (τ : Trace) (t : Nat) (l : String) (i : Nat) : Prop :=
  ∃ a, a < i ∧ τ[a]? = some ⟨t, .racq l⟩ ∧ ∀ k, a < k → k < i → τ[k]? ≠ some ⟨t, .rrel l⟩

/-- Well-formed lock usage. -/
structure WF (τ : Trace) : Prop where
  acq_free : ∀ a t l, τ[a]? = some ⟨t, .acq l⟩ → ∀ t', ¬ Holds τ t' l a
  acq_freeR : ∀ a t l, τ[a]? = some ⟨t, .acq l⟩ → ∀ t', ¬ HoldsR τ t' l a
  racq_free : ∀ a t l, τ[a]? = some ⟨t, .racq l⟩ → ∀ t', ¬ Holds τ t' l a
  rel_held : ∀ r t l, τ[r]? = some ⟨t, .rel l⟩ → Holds τ t l r

def isAccess : Op → Bool
  | .rd _ | .wr _ | .ard _ | .awr _ => true
  | _ => false

theorem holds_restrict {τ : Trace} {t : Nat} {l : String} {a i j : Nat} (hai : a < i) (hij : i ≤ j)
    (hacq : τ[a]? = some ⟨t, .acq l⟩) (hno : ∀ k, a < k → k < j → ¬ isRel τ l k) : Holds τ t l i :=
  ⟨a, hai, hacq, fun k h1 h2 => hno k h1 (Nat.lt_of_lt_of_le h2 hij)⟩

/-- Of two holders, the one that acquired first would still hold the lock when the other acquires it. -/
theorem holds_unique {τ : Trace} (wf : WF τ) {t t' : Nat} {l : String} {i : Nat}
    (h : Holds τ t l i) (h' : Holds τ t' l i) : t = t' := by
  obtain ⟨a, ha, hacq, hno⟩ := h
  obtain ⟨a', ha', hacq', hno'⟩ := h'
  rcases Nat.lt_trichotomy a a' with hlt | rfl | hgt
  · exact absurd (holds_restrict hlt (Nat.le_of_lt ha') hacq hno) (wf.acq_free a' t' l hacq' t)
  · rw [hacq] at hacq'; cases hacq'; rfl
  · exact absurd (holds_restrict hgt (Nat.le_of_lt ha) hacq' hno') (wf.acq_free a t l hacq t')

/-- the same argument as for `holds_unique` -/
theorem not_holds_holdsR {τ : Trace} (wf : WF τ) {t t' : Nat} {l : String} {m : Nat}
    (h : Holds τ t l m) (h' : HoldsR τ t' l m) : False := by
  obtain ⟨a, ha, hacq, hno⟩ := h
  obtain ⟨a', ha', hacq', hno'⟩ := h'
  rcases Nat.lt_trichotomy a a' with hlt | rfl | hgt
  · exact wf.racq_free a' t' l hacq' t (holds_restrict hlt (Nat.le_of_lt ha') hacq hno)
  · rw [hacq] at hacq'; cases hacq'
  · exact wf.acq_freeR a t l hacq t' ⟨a', hgt, hacq', fun k h1 h2 => hno' k h1 (Nat.lt_trans h2 ha)⟩

theorem none_between {P : Nat → Prop} {a i j : Nat} (h1 : ∀ k, a < k → k < i → ¬ P k)
    (h2 : ∀ k, i ≤ k → k < j → ¬ P k) : ∀ k, a < k → k < j → ¬ P k :=
  fun k ha hj => (Nat.lt_or_ge k i).elim (h1 k ha) (fun h => h2 k h hj)

theorem holds_extend {τ : Trace} {t : Nat} {l : String} {i j : Nat} (h : Holds τ t l i) (hij : i ≤ j)
    (hno : ∀ k, i ≤ k → k < j → ¬ isRel τ l k) : Holds τ t l j :=
  let ⟨a, ha, hacq, hn⟩ := h
  ⟨a, Nat.lt_of_lt_of_le ha hij, hacq, none_between hn hno⟩

theorem exists_first (P : Nat → Prop) (i j : Nat) :
    (∀ k, i ≤ k → k < j → ¬ P k) ∨ ∃ r, i ≤ r ∧ r < j ∧ P r ∧ ∀ k, i ≤ k → k < r → ¬ P k := by
  induction j with
  | zero => exact Or.inl fun k _ hk => absurd hk (Nat.not_lt_zero k)
  | succ j ih =>
    rcases ih with hno | ⟨r, h1, h2, h3, h4⟩
    · by_cases hj : i ≤ j ∧ P j
      · exact Or.inr ⟨j, hj.1, Nat.lt_succ_self j, hj.2, hno⟩
      · refine Or.inl fun k h1 h2 hk => ?_
        rcases Nat.lt_succ_iff_lt_or_eq.mp h2 with h | rfl
        · exact hno k h1 h hk
        · exact hj ⟨h1, hk⟩
    · exact Or.inr ⟨r, h1, Nat.lt_succ_of_lt h2, h3, h4⟩

theorem ne_of_access {τ : Trace} {i k t t' : Nat} {o o' : Op} (hi : τ[i]? = some ⟨t, o⟩)
    (ha : isAccess o = true) (hk : τ[k]? = some ⟨t', o'⟩) (hn : isAccess o' = false) : i ≠ k := by
  rintro rfl
  rw [hi] at hk
  cases hk
  rw [ha] at hn
  cases hn

theorem first_release {τ : Trace} (wf : WF τ) {i a ti : Nat} {l : String} {oi : Op}
    (hi : τ[i]? = some ⟨ti, oi⟩) (hai : isAccess oi = true) (hhi : Holds τ ti l i) (hia : i ≤ a)
    (hfree : ¬ Holds τ ti l a) : ∃ r, i < r ∧ r < a ∧ τ[r]? = some ⟨ti, .rel l⟩ := by
  obtain ⟨r, hr1, hr2, ⟨tr, hrel⟩, hfirst⟩ :=
    (exists_first (isRel τ l) i a).resolve_left fun hno => hfree (holds_extend hhi hia hno)
  have htr : tr = ti := holds_unique wf (wf.rel_held r tr l hrel) (holds_extend hhi hr1 hfirst)
  subst htr
  exact ⟨r, Nat.lt_of_le_of_ne hr1 (ne_of_access hi hai hrel rfl), hr2, hrel⟩

/-- **Lockset theorem, exclusive/exclusive.** In a well-formed trace, let `i < j` be access events of
different threads `ti ≠ tj` such that `ti` holds `l` at `i` and `tj` holds `l` at `j`.  Then there are
indices `i < r < a < j` with: `r` a release of `l` *by `ti`* (program order after `i`), `a` the
acquisition of `l` *by `tj`* (program order before `j`), and release-before-acquire is a synchronisation
edge — i.e. the two accesses are ordered by happens-before. -/
theorem lockset_ordered {τ : Trace} (wf : WF τ) {i j ti tj : Nat} {l : String} {oi oj : Op}
    (hij : i < j) (hi : τ[i]? = some ⟨ti, oi⟩) (_hj : τ[j]? = some ⟨tj, oj⟩)
    (hai : isAccess oi = true) (hne : ti ≠ tj)
    (hhi : Holds τ ti l i) (hhj : Holds τ tj l j) :
    ∃ r a, i < r ∧ r < a ∧ a < j ∧ τ[r]? = some ⟨ti, .rel l⟩ ∧ τ[a]? = some ⟨tj, .acq l⟩ := by
  obtain ⟨aj, haj, hacqj, hnoj⟩ := hhj
  -- acquiring `l` before `i`, `tj` would hold it at `i` as `ti` does
  have hlt : i < aj := Nat.lt_of_not_le fun h =>
    have h := Nat.lt_of_le_of_ne h (ne_of_access hi hai hacqj rfl).symm
    hne (holds_unique wf hhi (holds_restrict h (Nat.le_of_lt hij) hacqj hnoj))
  obtain ⟨r, h1, h2, h3⟩ := first_release wf hi hai hhi (Nat.le_of_lt hlt) (wf.acq_free aj tj l hacqj ti)
  exact ⟨r, aj, h1, h2, haj, h3, hacqj⟩

/-- **Lockset theorem, exclusive then shared.** The earlier access holds `l` exclusively, the later one
in shared mode: ordered through `Unlock` by `ti` → `RLock` by `tj`. -/
theorem lockset_ordered_wr {τ : Trace} (wf : WF τ) {i j ti tj : Nat} {l : String} {oi oj : Op}
    (hij : i < j) (hi : τ[i]? = some ⟨ti, oi⟩) (_hj : τ[j]? = some ⟨tj, oj⟩)
    (hai : isAccess oi = true)
    (hhi : Holds τ ti l i) (hhj : HoldsR τ tj l j) :
    ∃ r a, i < r ∧ r < a ∧ a < j ∧ τ[r]? = some ⟨ti, .rel l⟩ ∧ τ[a]? = some ⟨tj, .racq l⟩ := by
  obtain ⟨aj, haj, hacqj, hnoj⟩ := hhj
  -- r-acquiring `l` before `i`, `tj` would hold it shared at `i`, where `ti` holds it exclusively
  have hlt : i < aj := Nat.lt_of_not_le fun h =>
    have h := Nat.lt_of_le_of_ne h (ne_of_access hi hai hacqj rfl).symm
    not_holds_holdsR wf hhi ⟨aj, h, hacqj, fun k h1 h2 => hnoj k h1 (Nat.lt_trans h2 hij)⟩
  obtain ⟨r, h1, h2, h3⟩ := first_release wf hi hai hhi (Nat.le_of_lt hlt) (wf.racq_free aj tj l hacqj ti)
  exact ⟨r, aj, h1, h2, haj, h3, hacqj⟩

/-- **Lockset theorem, shared then exclusive.** The earlier access holds `l` in shared mode, the later one
exclusively: ordered through `RUnlock` by `ti` → `Lock` by `tj`. -/
theorem lockset_ordered_rw {τ : Trace} (wf : WF τ) {i j ti tj : Nat} {l : String} {oi oj : Op}
    (hij : i < j) (hi : τ[i]? = some ⟨ti, oi⟩) (_hj : τ[j]? = some ⟨tj, oj⟩)
    (hai : isAccess oi = true)
    (hhi : HoldsR τ ti l i) (hhj : Holds τ tj l j) :
    ∃ r a, i < r ∧ r < a ∧ a < j ∧ τ[r]? = some ⟨ti, .rrel l⟩ ∧ τ[a]? = some ⟨tj, .acq l⟩ := by
  obtain ⟨aj, haj, hacqj, hnoj⟩ := hhj
  -- acquiring `l` before `i`, `tj` would hold it exclusively at `i`, where `ti` holds it shared
  have hlt : i < aj := Nat.lt_of_not_le fun h =>
    have h := Nat.lt_of_le_of_ne h (ne_of_access hi hai hacqj rfl).symm
    not_holds_holdsR wf (holds_restrict h (Nat.le_of_lt hij) hacqj hnoj) hhi
  obtain ⟨ai, hai', hacqi, hnoi⟩ := hhi
  -- were there no `RUnlock` by `ti` between `i` and `aj`, `ti` would still hold `l` shared at `aj`
  obtain ⟨r, hr1, hr2, hrel, _⟩ := (exists_first (fun k => τ[k]? = some ⟨ti, .rrel l⟩) i aj).resolve_left fun hno =>
    wf.acq_freeR aj tj l hacqj ti ⟨ai, Nat.lt_trans hai' hlt, hacqi, none_between hnoi hno⟩
  exact ⟨r, aj, Nat.lt_of_le_of_ne hr1 (ne_of_access hi hai hrel rfl), hr2, haj, hrel, hacqj⟩

end Snowflake.Hb
