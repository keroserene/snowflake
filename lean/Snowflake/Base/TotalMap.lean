/-
Total maps `Nat → α` with pointwise update (`upd`), running a list of labels of a partial step function
(`runL`), the states reachable from an initial one (`Reach`), and the rules that carry an invariant along
a run (`runL_inv`, `Reach.inv`) or turn a decreasing rank into a bounded run (`runL_of_progress`).  Core-only.
-/
namespace Snowflake.TotalMap

def upd {α} (m : Nat → α) (k : Nat) (v : α) : Nat → α := fun x => if x = k then v else m x

theorem upd_apply {α} (m : Nat → α) (k : Nat) (v : α) (x : Nat) :
    upd m k v x = if x = k then v else m x := rfl

@[simp] theorem upd_same {α} (m : Nat → α) (k : Nat) (v : α) : upd m k v k = v := by simp [upd]

@[simp] theorem upd_ne {α} (m : Nat → α) (k : Nat) (v : α) (x : Nat) (h : x ≠ k) : upd m k v x = m x := by
  simp [upd, h]

@[simp] theorem upd_upd {α} (m : Nat → α) (k : Nat) (v w : α) : upd (upd m k v) k w = upd m k w := by
  funext x; unfold upd; split <;> rfl

theorem upd_eq_self {α} (m : Nat → α) (k : Nat) : upd m k (m k) = m := by
  funext x
  rw [upd_apply]
  split <;> simp [*]

theorem forall_upd {α} {P : Nat → α → Prop} {m : Nat → α} {k : Nat} {v : α}
    (hm : ∀ j, P j (m j)) (hv : P k v) (j : Nat) : P j (upd m k v j) := by
  unfold upd; split
  · next h => exact h ▸ hv
  · exact hm j

/-- If the predicate changes at most at `p`, the count over a duplicate-free list moves by `p`'s contribution
(none if `p` is not listed). -/
theorem count_upd {L : List Nat} {p : Nat} {f g : Nat → Bool} (hn : L.Nodup)
    (hfg : ∀ q, q ≠ p → g q = f q) (hp : p ∉ L → g p = f p) :
    (L.filter g).length + (f p).toNat = (L.filter f).length + (g p).toNat := by
  by_cases hpL : p ∈ L
  · -- up to order `L` is `p` followed by the rest, on which `f` and `g` agree
    have e := List.perm_cons_erase hpL
    have hE : (L.erase p).filter g = (L.erase p).filter f :=
      List.filter_congr fun q hq => hfg q fun e => hn.not_mem_erase (e ▸ hq)
    rw [(e.filter g).length_eq, (e.filter f).length_eq, List.filter_cons, List.filter_cons, hE]
    cases f p <;> cases g p <;> rfl
  · rw [hp hpL, List.filter_congr fun q hq => hfg q fun e => hpL (e ▸ hq)]

/-- Run a list of labels; `none` as soon as one of them is not enabled. -/
def runL {S L} (step : S → L → Option S) : S → List L → Option S
  | s, [] => some s
  | s, l :: ls => match step s l with
    | some s' => runL step s' ls
    | none => none

@[simp] theorem runL_nil {S L} (step : S → L → Option S) (s : S) : runL step s [] = some s := rfl

theorem runL_cons {S L} (step : S → L → Option S) (s : S) (l : L) (ls : List L) :
    runL step s (l :: ls) = (step s l).bind (fun s' => runL step s' ls) := by
  simp only [runL]; cases step s l <;> rfl

theorem runL_append {S L} (step : S → L → Option S) (s : S) (as bs : List L) :
    runL step s (as ++ bs) = (runL step s as).bind (fun s' => runL step s' bs) := by
  induction as generalizing s with
  | nil => rfl
  | cons a as ih => simp [runL_cons, ih, Option.bind_assoc]

/-- States reachable from `init` by enabled labels. -/
inductive Reach {S L} (step : S → L → Option S) (init : S) : S → Prop
  | init : Reach step init init
  | step {s s' : S} (l : L) : Reach step init s → step s l = some s' → Reach step init s'

/-- `ok` is the class of labels the run is restricted to (one group of threads, say): `P` need only
survive those. -/
theorem runL_inv {S L} {step : S → L → Option S} (P : S → Prop) (ok : L → Prop)
    (hstep : ∀ s l s', P s → ok l → step s l = some s' → P s') {s s' : S} (ls : List L) (h : P s)
    (hok : ∀ l ∈ ls, ok l) (hr : runL step s ls = some s') : P s' := by
  induction ls generalizing s with
  | nil => cases hr; exact h
  | cons l ls ih =>
    rw [runL_cons] at hr
    obtain ⟨s1, hs, hr⟩ := Option.bind_eq_some_iff.mp hr
    exact ih (hstep _ l _ h (hok l (.head _)) hs) (fun l' hl' => hok l' (.tail _ hl')) hr

theorem Reach.runL {S L} {step : S → L → Option S} {init s s' : S} (h : Reach step init s) (ls : List L)
    (hr : TotalMap.runL step s ls = some s') : Reach step init s' :=
  runL_inv (Reach step init) (fun _ => True) (fun _ l _ h _ hs => Reach.step l h hs) ls h (fun _ _ => trivial) hr

/-- `hstep` may use that `s` is reachable, so an invariant proved earlier need not be carried along. -/
theorem Reach.inv {S L} {step : S → L → Option S} {init : S} (P : S → Prop) (h0 : P init)
    (hstep : ∀ s l s', Reach step init s → P s → step s l = some s' → P s') {s : S} (h : Reach step init s) :
    P s := by
  induction h with
  | init => exact h0
  | step l hr hs ih => exact hstep _ l _ hr ih hs

theorem Reach.of_runL_map {S L α} {step : S → L → Option S} {init : S} {ls : List L} {f : S → α} {a : α}
    (h : (TotalMap.runL step init ls).map f = some a) : ∃ s, Reach step init s ∧ f s = a := by
  obtain ⟨s, hr, hf⟩ := Option.map_eq_some_iff.mp h
  exact ⟨s, Reach.runL .init ls hr, hf⟩

/-- `ok`: the labels the run may use; `I`: an invariant of those; `rank`: a bound on the `ok` labels still
needed to reach `fin`, lowered by some enabled one as long as `fin` fails. -/
theorem runL_of_progress {S L} {step : S → L → Option S} (I fin : S → Prop) (ok : L → Prop) (rank : S → Nat)
    (hstep : ∀ s l s', I s → ok l → step s l = some s' → I s')
    (hprog : ∀ s, I s → ¬fin s → ∃ l s', ok l ∧ step s l = some s' ∧ rank s' < rank s)
    {s : S} (hs : I s) :
    ∃ ls s', ls.length ≤ rank s ∧ (∀ l ∈ ls, ok l) ∧ runL step s ls = some s' ∧ fin s' := by
  induction hn : rank s using Nat.strongRecOn generalizing s with
  | ind n ih =>
    subst hn
    by_cases hf : fin s
    · exact ⟨[], s, Nat.zero_le _, List.forall_mem_nil _, rfl, hf⟩
    · obtain ⟨l, s1, hl, h1, hlt⟩ := hprog s hs hf
      obtain ⟨ls, s', hlen, hok, hrun, hf'⟩ := ih _ hlt (hstep s l s1 hs hl h1) rfl
      exact ⟨l :: ls, s', Nat.lt_of_le_of_lt hlen hlt, List.forall_mem_cons.mpr ⟨hl, hok⟩,
        by rw [runL_cons, h1]; exact hrun, hf'⟩

end Snowflake.TotalMap
