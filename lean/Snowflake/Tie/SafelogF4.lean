import Snowflake.Tie.Safelog
/-!
Tie obligation for the F4 part of C07 (kept in its own module so that it can be dropped, together with
`Props/C07Full.lean`, if the widening of `ipv6Compressed` is recorded as a known finding instead of repaired).
-/
namespace Snowflake.Tie.Safelog
open Snowflake.Rx Snowflake.Safelog

/-- The repeat bound of `ipv6Compressed` is at least 6: enough for the seven groups Go's parser accepts
beside `::`.  (With the originally pinned bound 5, `::2:3:4:5:6:7:abcd` is not matched: finding F4.) -/
theorem compressed_covers_seven_groups :
    ∃ n, 6 ≤ n ∧ eraseCaps Gen.Safelog.addressPattern = addressShapeN n :=
  have h : ∃ n, n < 9 ∧ 6 ≤ n ∧ eraseCaps Gen.Safelog.addressPattern = addressShapeN n := by decide +kernel
  h.imp fun _ h => h.2

end Snowflake.Tie.Safelog
