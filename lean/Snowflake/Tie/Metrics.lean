import Snowflake.Generated.Metrics
import Snowflake.Model.Metrics
import Snowflake.Base.Skel
import Snowflake.Tie.SkelEval
/-!
Tie obligations for C19: facts regenerated from `broker/{metrics,prometheus,ipc}.go`,
`common/messages`, `common/ipsetsink` and `common/ipsetsink/sinkcluster` equal what the model
(`Model/Metrics.lean`) assumes.
-/
namespace Snowflake.Tie.Metrics
open Snowflake.Metrics

/-- the guard of `roundedCounter.Inc` -/
theorem incGuard_tie (total value : Nat) : Gen.Metrics.inc_guard total value = incGuard total value := rfl

/-- the `continue` condition of `ClusterCounter.Count` -/
theorem readerSkip_tie (a b c : Bool) : Gen.Metrics.reader_skipCond a b c = skipCond a b c := rfl

theorem knownProxyTypes_tie : Gen.Metrics.KnownProxyTypes = knownProxyTypes := rfl

theorem natConsts_tie :
    Gen.Metrics.NATRestricted = natRestricted ∧ Gen.Metrics.NATUnrestricted = natUnrestricted :=
  ⟨rfl, rfl⟩

/-- `binCount` is float code outside the translated subset: its body is tied by source text.  The
model's `binCount = ceil8` was written against exactly this expression (exact below 2^53). -/
theorem binCount_src_tie :
    Gen.Metrics.binCount_src = "{ return uint((math.Ceil(float64(count) / 8)) * 8) }" := rfl

def isLock (l : String) : Bool := l.startsWith "call c." && l.endsWith ".Lock()"
def isUnlock (l : String) : Bool := l.startsWith "call c." && l.endsWith ".Unlock()"
def isDeferUnlock (l : String) : Bool := l.startsWith "defer c." && l.endsWith ".Unlock()"

/-- `c.<mutex>` named by a lock / unlock / deferred-unlock line. -/
def mutexOf (l : String) : String :=
  if isLock l then ((l.drop 5).dropEnd 7).toString
  else if isUnlock l then ((l.drop 5).dropEnd 9).toString
  else if isDeferUnlock l then ((l.drop 6).dropEnd 9).toString
  else ""

def incBody (sk : List String) : List String :=
  sk.filter fun l => !(isLock l || isUnlock l || isDeferUnlock l)

/-- `Inc` is the two-step body the model executes (`step`, `RC.inc`). -/
theorem inc_body_tie :
    incBody Gen.Metrics.skel_Inc =
      ["call atomic.AddUint64(&c.total, 1)", "if c.total > c.value{", "call atomic.AddUint64(&c.value, 8)", "}"]
    ∧ incStep = 8 := by
  decide +kernel

/-- The whole body of `Inc` runs under the counter's own mutex (the *repaired* body of the model). -/
def incSelfLocked (sk : List String) : Bool :=
  match sk with
  | l1 :: l2 :: _ => isLock l1 && isDeferUnlock l2 && mutexOf l1 == mutexOf l2
  | _ => false

/-- `Write` reads under the same mutex. -/
def writeLocked (inc write : List String) : Bool :=
  match inc with
  | l1 :: _ =>
    Skel.count write (fun l => isLock l && mutexOf l == mutexOf l1) == 1
      && Skel.count write (fun l => (isUnlock l || isDeferUnlock l) && mutexOf l == mutexOf l1) == 1
  | [] => false

def mLock : String := "call i.ctx.metrics.lock.Lock()"
def mUnlock : String := "call i.ctx.metrics.lock.Unlock()"

/-- `metrics.lock` is used in a path-insensitive way: every block leaves the lock state as it found it, the
lock is never taken twice, never released when free, never held at a `return`.  Then the lock state at a line
is a function of the line (`heldAt`). -/
def balanced : List String → Bool → List Bool → Bool
  | [], held, stack => !held && stack.isEmpty
  | l :: ls, held, stack =>
    if l == mLock then !held && balanced ls true stack
    else if l == mUnlock then held && balanced ls false stack
    else if l == "return" then !held && balanced ls held stack
    else if l == "}" then
      (match stack with
       | e :: st => held == e && balanced ls held st
       | [] => false)
    else if l == "}else{" || l == "case:" || l == "default:" then
      (match stack with
       | e :: _ => held == e && balanced ls e stack
       | [] => false)
    else if l.endsWith "{" then balanced ls held (held :: stack)
    else balanced ls held stack

def heldAt : List String → Bool → List (String × Bool)
  | [], _ => []
  | l :: ls, held =>
    if l == mLock then (l, held) :: heldAt ls true
    else if l == mUnlock then (l, held) :: heldAt ls false
    else (l, held) :: heldAt ls held

def outsideLock (sk : List String) (p : String → Bool) : List String :=
  ((heldAt sk false).filter fun x => p x.1 && !x.2).map (·.1)

def isIncDec (l : String) : Bool := l.startsWith "incdec i.ctx.metrics."
def isRoundedInc (l : String) : Bool := l.startsWith "call i.ctx.metrics.promMetrics." && l.endsWith ".Inc()"
def isStatsCall (l : String) : Bool :=
  l.startsWith "call i.ctx.metrics.UpdateCountryStats(" || l.startsWith "call i.ctx.metrics.RecordIPAddress("

attribute [skel_eval] isLock.eq_unfold isUnlock.eq_unfold isDeferUnlock.eq_unfold isIncDec.eq_unfold isRoundedInc.eq_unfold
  isStatsCall.eq_unfold

/-- so `outsideLock` is exact for both IPC functions -/
theorem metrics_lock_balanced :
    balanced Gen.Metrics.skel_ProxyPolls false [] = true
    ∧ balanced Gen.Metrics.skel_ClientOffers false [] = true := by decide +kernel

/-- The plain (non-atomic) event counters are incremented only under `metrics.lock`, and the increments are
the ones `Counters.apply` performs. -/
theorem plain_counters_under_lock :
    outsideLock Gen.Metrics.skel_ProxyPolls isIncDec = []
    ∧ outsideLock Gen.Metrics.skel_ClientOffers isIncDec = []
    ∧ Gen.Metrics.skel_ProxyPolls.filter isIncDec =
        ["incdec i.ctx.metrics.proxyPollWithoutRelayURLExtension++", "incdec i.ctx.metrics.proxyPollWithRelayURLExtension++",
         "incdec i.ctx.metrics.proxyPollRejectedWithRelayURLExtension++", "incdec i.ctx.metrics.proxyIdleCount++"]
    ∧ Gen.Metrics.skel_ClientOffers.filter isIncDec =
        ["incdec i.ctx.metrics.clientDeniedCount++", "incdec i.ctx.metrics.clientUnrestrictedDeniedCount++",
         "incdec i.ctx.metrics.clientRestrictedDeniedCount++", "incdec i.ctx.metrics.clientProxyMatchCount++"] := by
  simp only [skel_eval]
  decide +kernel

/-- `UpdateCountryStats` / `RecordIPAddress` (plain maps, the journal writer) are called under
`metrics.lock`, once each. -/
theorem country_stats_under_lock :
    outsideLock Gen.Metrics.skel_ProxyPolls isStatsCall = []
    ∧ Skel.count Gen.Metrics.skel_ProxyPolls isStatsCall = 2
    ∧ Skel.count Gen.Metrics.skel_ClientOffers isStatsCall = 0 := by
  simp only [skel_eval]
  decide +kernel

/-- **Serialisation of `roundedCounter.Inc`.** Either every `.Inc()` site on a rounded counter in
`ipc.go` runs under `metrics.lock` (then `rounded_serial` applies), or `Inc` holds the counter's own
mutex for its whole body and `Write` reads under the same mutex (then `rounded_concurrent`
applies).  On the pinned tree neither holds: the `"matched"` site of `ProxyPolls` is outside the
lock and `Inc` takes no mutex (F13). -/
theorem rounded_inc_serialised :
    (outsideLock Gen.Metrics.skel_ProxyPolls isRoundedInc = []
      ∧ outsideLock Gen.Metrics.skel_ClientOffers isRoundedInc = [])
    ∨ (incSelfLocked Gen.Metrics.skel_Inc = true
      ∧ writeLocked Gen.Metrics.skel_Inc Gen.Metrics.skel_Write = true) := by
  -- evaluation stops at the first alternative that holds: try the nine lines of `Inc` and `Write` before the
  -- two IPC functions
  rw [or_comm]
  simp only [skel_eval]
  decide +kernel

/-- The seven rounded-counter sites the harness and the model account for: with / without / rejected / idle /
matched in `ProxyPolls`, denied / matched in `ClientOffers`. -/
theorem rounded_inc_sites :
    Skel.count Gen.Metrics.skel_ProxyPolls isRoundedInc = 5
    ∧ Skel.count Gen.Metrics.skel_ClientOffers isRoundedInc = 2 := by
  simp only [skel_eval]
  decide +kernel

/-- `printMetrics` holds `metrics.lock` from its first to its last statement and publishes the eight
counters through `binCount`, in the order of `Counters.toList`. -/
theorem printMetrics_tie :
    Gen.Metrics.skel_printMetrics.head? = some "call m.lock.Lock()"
    ∧ Gen.Metrics.skel_printMetrics.getLast? = some "call m.lock.Unlock()"
    ∧ Skel.count Gen.Metrics.skel_printMetrics (fun l => l.endsWith ".Lock()" || l.endsWith ".Unlock()") = 2
    ∧ Gen.Metrics.skel_printMetrics.filter (Skel.pre "call binCount(") =
        ["call binCount(m.proxyIdleCount)", "call binCount(m.proxyPollWithRelayURLExtension)",
         "call binCount(m.proxyPollWithoutRelayURLExtension)", "call binCount(m.proxyPollRejectedWithRelayURLExtension)",
         "call binCount(m.clientDeniedCount)", "call binCount(m.clientRestrictedDeniedCount)",
         "call binCount(m.clientUnrestrictedDeniedCount)", "call binCount(m.clientProxyMatchCount)"] := by
  simp only [skel_eval]
  decide +kernel

/-- `UpdateCountryStats` has the shape of `Stats.update`: a known address returns at once; without a geoip
database nothing beyond the insertion happens; otherwise one country count is incremented and the address
enters the one NAT set chosen by the `natType` switch. -/
theorem updateCountryStats_tie :
    Skel.blockOf Gen.Metrics.skel_UpdateCountryStats (Skel.pre "if m.countryStats.unknown[addr]{") = some ["return"]
    ∧ Skel.blockOf Gen.Metrics.skel_UpdateCountryStats (Skel.pre "if addresses[addr]{") = some ["return"]
    ∧ Skel.blockOf Gen.Metrics.skel_UpdateCountryStats (Skel.pre "if m.geoipdb == nil{") = some ["return"]
    ∧ Skel.before Gen.Metrics.skel_UpdateCountryStats (Skel.pre "if m.countryStats.unknown[addr]{") (Skel.pre "assign m.countryStats.unknown[addr] = true;") = true
    ∧ Skel.before Gen.Metrics.skel_UpdateCountryStats (Skel.pre "if addresses[addr]{") (Skel.pre "assign addresses[addr] = true;") = true
    ∧ Skel.before Gen.Metrics.skel_UpdateCountryStats (Skel.pre "assign addresses[addr] = true;") (Skel.pre "if m.geoipdb == nil{") = true
    ∧ Skel.before Gen.Metrics.skel_UpdateCountryStats (Skel.pre "if m.geoipdb == nil{") (Skel.pre "incdec m.countryStats.counts[country]++") = true
    ∧ Skel.count Gen.Metrics.skel_UpdateCountryStats (Skel.pre "incdec m.countryStats.counts[country]++") = 1
    ∧ Skel.blockOf Gen.Metrics.skel_UpdateCountryStats (Skel.pre "switch natType{") =
        some ["case NATRestricted:", "assign m.countryStats.natRestricted[addr] = true;",
              "case NATUnrestricted:", "assign m.countryStats.natUnrestricted[addr] = true;",
              "case default:", "assign m.countryStats.natUnknown[addr] = true;"]
    ∧ Skel.count Gen.Metrics.skel_UpdateCountryStats (Skel.pre "assign ") = 5 := by
  simp only [skel_eval]
  decide +kernel

/-- `zeroMetrics` resets each of the eight event counters and re-makes every set (`Counters.zero`,
`Stats.empty`). -/
theorem zeroMetrics_tie :
    Gen.Metrics.skel_zeroMetrics.filter (fun l => l.endsWith " = 0;") =
        ["assign m.proxyIdleCount = 0;", "assign m.clientDeniedCount = 0;", "assign m.clientRestrictedDeniedCount = 0;",
         "assign m.clientUnrestrictedDeniedCount = 0;", "assign m.proxyPollRejectedWithRelayURLExtension = 0;",
         "assign m.proxyPollWithRelayURLExtension = 0;", "assign m.proxyPollWithoutRelayURLExtension = 0;",
         "assign m.clientProxyMatchCount = 0;"]
    ∧ Skel.count Gen.Metrics.skel_zeroMetrics (Skel.pre "assign m.countryStats.counts = make(map[string]int);") = 1
    ∧ Skel.blockOf Gen.Metrics.skel_zeroMetrics (Skel.pre "range m.countryStats.proxies{")
        = some ["assign m.countryStats.proxies[pType] = make(map[string]bool);"]
    ∧ Skel.count Gen.Metrics.skel_zeroMetrics (Skel.pre "assign m.countryStats.unknown = make(map[string]bool);") = 1
    ∧ Skel.count Gen.Metrics.skel_zeroMetrics (Skel.pre "assign m.countryStats.natRestricted = make(map[string]bool);") = 1
    ∧ Skel.count Gen.Metrics.skel_zeroMetrics (Skel.pre "assign m.countryStats.natUnrestricted = make(map[string]bool);") = 1
    ∧ Skel.count Gen.Metrics.skel_zeroMetrics (Skel.pre "assign m.countryStats.natUnknown = make(map[string]bool);") = 1 := by
  simp only [skel_eval]
  decide +kernel

/-- The sink feeds the sketch only with the masked address, and `Dump` serialises only the sketch. -/
theorem sink_only_masked :
    Gen.Metrics.skel_sinkAdd.filter (Skel.pre "call s.countDistinct.") =
      ["call s.countDistinct.Add(truncatedHash64FromBytes{hashValue(s.maskIPAddress(ipAddress))})"]
    ∧ Gen.Metrics.skel_sinkDump.filter (Skel.pre "call ") = ["call s.countDistinct.GobEncode()"] := by
  simp only [skel_eval]
  decide +kernel

/-- `ClusterWriter.AddIPToSet` has the shape of `Writer.add`: the interval test guards exactly the flush, the
unconditional add comes after it. -/
theorem writer_add_tie :
    Skel.blockOf Gen.Metrics.skel_writerAdd (Skel.pre "if c.lastWriteTime.Add(c.writeInterval).Before(time.Now()){")
      = some ["call c.WriteIPSetToDisk()"]
    ∧ Gen.Metrics.skel_writerAdd.getLast? = some "call c.current.AddIPToSet(ipAddress)"
    ∧ Skel.count Gen.Metrics.skel_writerAdd (Skel.pre "call c.current.AddIPToSet(") = 1
    ∧ Skel.count Gen.Metrics.skel_writerAdd (Skel.pre "call c.WriteIPSetToDisk(") = 1 := by
  simp only [skel_eval]
  decide +kernel

/-- `WriteIPSetToDisk` has the shape of `Writer.flush`: dump, write, reset. -/
theorem writer_flush_tie :
    Skel.before Gen.Metrics.skel_writerFlush (Skel.pre "call c.current.Dump(") (Skel.pre "call io.Copy(c.writer,") = true
    ∧ Skel.before Gen.Metrics.skel_writerFlush (Skel.pre "call io.Copy(c.writer,") (Skel.pre "call c.current.Reset(") = true
    ∧ Skel.count Gen.Metrics.skel_writerFlush (Skel.pre "call c.current.Dump(") = 1
    ∧ Skel.count Gen.Metrics.skel_writerFlush (Skel.pre "call io.Copy(") = 1
    ∧ Skel.count Gen.Metrics.skel_writerFlush (Skel.pre "call c.current.Reset(") = 1
    ∧ Gen.Metrics.skel_writerFlush.getLast? = some "call c.current.Reset()" := by
  simp only [skel_eval]
  decide +kernel

end Snowflake.Tie.Metrics
