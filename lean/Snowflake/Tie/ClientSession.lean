import Snowflake.Generated.ClientSession
import Snowflake.Tie.SkelEval
/-!
Tie obligations for C01: the client-side wiring of a session that the stack harness replicates (with
WebSocket carriers in place of WebRTC peers) and that the theorems assume — preface order, one frame per
datagram — is the source's.
-/
namespace Snowflake.Tie.ClientSession
open Snowflake.Gen

/-- the wiring the stack harness replicates: a fresh ClientID; each redial pops a peer, writes the Token, then the ClientID (a peer on which that fails is closed and the next one is popped), then wraps the peer in the encapsulation packet conn; RedialPacketConn under kcp.NewConn2 (stream mode, window sizes, nodelay 0,0,0,1) under smux.Client (version 2). -/
def expected_newSession : List String := [
  "call turbotunnel.NewClientID()",
  "func{",
  "for{",
  "call snowflakes.Pop()",
  "if conn == nil{",
  "return",
  "}",
  "call conn.Write(turbotunnel.Token[:])",
  "if err == nil{",
  "call conn.Write(clientID[:])",
  "}",
  "if err != nil{",
  "call conn.Close()",
  "continue",
  "}",
  "call newEncapsulationPacketConn(dummyAddr{}, dummyAddr{}, conn)",
  "return",
  "}",
  "}",
  "call turbotunnel.NewRedialPacketConn(dummyAddr{}, dummyAddr{}, dialContext)",
  "call kcp.NewConn2(dummyAddr{}, nil, 0, 0, pconn)",
  "if err != nil{",
  "call pconn.Close()",
  "return",
  "}",
  "call conn.SetStreamMode(true)",
  "call conn.SetWindowSize(WindowSize, WindowSize)",
  "call conn.SetNoDelay(0, 0, 0, 1)",
  "assign smuxConfig.Version = 2",
  "assign smuxConfig.KeepAliveTimeout = 10 * time.Minute",
  "assign smuxConfig.MaxStreamBuffer = StreamSize",
  "call smux.Client(conn, smuxConfig)",
  "if err != nil{",
  "call conn.Close()",
  "call pconn.Close()",
  "return",
  "}",
  "return"
]

theorem skel_newSession_tie : ClientSession.skel_newSession = expected_newSession := rfl

/-- one ReadData per datagram, copied into the caller buffer. -/
def expected_encap_ReadFrom : List String := [
  "call encapsulation.ReadData(c.ReadWriteCloser)",
  "if err != nil{",
  "return 0, c.remoteAddr, err",
  "}",
  "call copy(p, data)",
  "return copy(p, data), c.remoteAddr, nil"
]

theorem skel_encap_ReadFrom_tie : ClientSession.skel_encap_ReadFrom = expected_encap_ReadFrom := rfl

/-- one WriteData + Flush per datagram (one frame per packet, the shape `encodeItems (dataItems ps)` of the theorems). -/
def expected_encap_WriteTo : List String := [
  "call encapsulation.WriteData(c.bw, p)",
  "if err == nil{",
  "call c.bw.Flush()",
  "}",
  "if err != nil{",
  "return",
  "}",
  "return"
]

theorem skel_encap_WriteTo_tie : ClientSession.skel_encap_WriteTo = expected_encap_WriteTo := rfl

/-- In `dialContext` the token is written before the ClientID, both before the encapsulation layer is created. -/
theorem preface_order :
    (match ClientSession.skel_newSession.findIdx? (· == "call conn.Write(turbotunnel.Token[:])"),
           ClientSession.skel_newSession.findIdx? (· == "call conn.Write(clientID[:])"),
           ClientSession.skel_newSession.findIdx? (fun l => l.startsWith "call newEncapsulationPacketConn(") with
     | some a, some b, some c => decide (a < b ∧ b < c)
     | _, _, _ => false) = true := by
  simp only [skel_eval]
  decide +kernel

end Snowflake.Tie.ClientSession
