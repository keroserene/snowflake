import Snowflake.Generated.Turbotunnel
import Snowflake.Model.ClientMap
import Snowflake.Model.QueueConn
import Snowflake.Model.Redial
import Snowflake.Model.RedialSource
import Snowflake.Base.Skel
import Snowflake.Props.C17
import Snowflake.Tie.SkelEval
/-!
Tie obligations for C17: what is regenerated from `common/turbotunnel/*.go` against what the models assume.
For the queue connection, the client map and `dialLoop` these are orderings, counts, non-blocking selects and
the close-once shape; for `exchange` — whose goroutine/select structure *is* the LTS of `Model/Redial.lean` —
the whole skeleton except the two capacity lines.
-/
namespace Snowflake.Tie.Turbotunnel
open Snowflake Snowflake.Skel
open Snowflake.Gen.Turbotunnel

theorem queueSize_tie : queueSize = (ClientMap.queueSize : Int) ∧ queueSize = (Redial.queueSize : Int) :=
  ⟨rfl, rfl⟩

/-- the guard of `removeExpired`'s loop -/
theorem guard_tie (n : Nat) (now lastSeen timeout : Int) :
    removeExpired_guard n now lastSeen timeout = ClientMap.guard n now lastSeen timeout := rfl

/-- `clientMapInner.Less` -/
theorem less_tie (s : ClientMap.Inner) (i j : Nat) :
    clientMap_less (Heap.keyAt ClientMap.Rec.lastSeen s.byAge i) (Heap.keyAt ClientMap.Rec.lastSeen s.byAge j)
      = ClientMap.lessH s i j := rfl

/-- `sendQueue`/`recvQueue` of both connections and every client queue are made with capacity
`queueSize`; `closed` is unbuffered; `NewRedialPacketConn` starts `dialLoop`. -/
theorem queue_capacities :
    count skel_NewRedialPacketConn (· == "makechan cap=queueSize") = 2
    ∧ skel_NewRedialPacketConn.contains "go c.dialLoop" = true
    ∧ count skel_NewQueuePacketConn (· == "makechan cap=queueSize") = 1
    ∧ skel_cmSendQueue.contains "makechan cap=queueSize" = true := by
  decide +kernel

/-- a `select` with a `default:` arm does not block -/
def hasDefault (b : List String) : Bool := b.contains "default:"

/-- `QueueIncoming`: closed check (returning) first, then the copy, then a send on `c.recvQueue`
inside a select with a default arm; nothing else can block. -/
theorem queueIncoming_shape :
    before skel_QueueIncoming (· == "recv c.closed") (pre "call copy(buf, p)") = true
    ∧ before skel_QueueIncoming (pre "call copy(buf, p)") (· == "send c.recvQueue") = true
    ∧ count skel_QueueIncoming (pre "send ") = 1 ∧ count skel_QueueIncoming (pre "recv ") = 1
    ∧ count skel_QueueIncoming (· == "select{") = 2 ∧ count skel_QueueIncoming (· == "default:") = 2
    ∧ count skel_QueueIncoming (pre "call c.") = 0 := by
  simp only [skel_eval]
  decide +kernel

/-- `QueuePacketConn.WriteTo`: non-blocking closed check, copy, then `c.clients.trySend(addr, buf)` — the
packet the map gets is the copy, not the caller's buffer — and nothing else that can block or send. -/
theorem queueWriteTo_shape :
    before skel_queueWriteTo (· == "recv c.closed") (pre "call copy(buf, p)") = true
    ∧ before skel_queueWriteTo (pre "call copy(buf, p)") (· == "call c.clients.trySend(addr, buf)") = true
    ∧ count skel_queueWriteTo (pre "send ") = 0 ∧ count skel_queueWriteTo (pre "recv ") = 1
    ∧ count skel_queueWriteTo (· == "select{") = 1 ∧ count skel_queueWriteTo (· == "default:") = 1
    ∧ count skel_queueWriteTo (pre "call c.clients.") = 1 := by
  simp only [skel_eval]
  decide +kernel

/-- `ClientMap.trySend` sends under the map's lock, inside a select with a default arm: the send cannot block
and cannot overlap `removeExpired`, which closes expired queues under the same lock (`clientMap_shape`).
Before the repair (§11.2 F18) `WriteTo` sent after `ClientMap.SendQueue` had released the lock. -/
theorem trySend_shape :
    skel_ClientMapTrySend.take 2 = ["call m.lock.Lock()", "defer m.lock.Unlock()"]
    ∧ count skel_ClientMapTrySend (· == "call m.lock.Unlock()") = 0
    ∧ count skel_ClientMapTrySend (pre "send ") = 1
    ∧ skel_ClientMapTrySend.contains "send m.inner.SendQueue(addr, time.Now())" = true
    ∧ count skel_ClientMapTrySend (· == "select{") = 1 ∧ count skel_ClientMapTrySend (· == "default:") = 1
    ∧ count skel_ClientMapTrySend (pre "recv ") = 0 := by
  simp only [skel_eval]
  decide +kernel

/-- `QueuePacketConn.ReadFrom`: a non-blocking closed check first, then a blocking select on
`closed` and `recvQueue` whose packet arm copies into the caller's buffer. -/
theorem queueReadFrom_shape :
    skel_queueReadFrom.take 8 = ["select{", "case:", "recv c.closed", "do:", "return", "default:", "do:", "}"]
    ∧ count skel_queueReadFrom (· == "recv c.recvQueue") = 1
    ∧ count skel_queueReadFrom (· == "default:") = 1
    ∧ before skel_queueReadFrom (· == "recv c.recvQueue") (pre "call copy(p, packet.P)") = true := by
  simp only [skel_eval]
  decide +kernel

/-- Both `closeWithError`s: everything happens inside one `closeOnce.Do`, the error is stored before
`closed` is closed, `closed` is closed exactly once in the text. -/
theorem closeWithError_shape :
    (∀ sk ∈ [skel_queueCloseWithError, skel_redialCloseWithError],
      sk.head? = some "call c.closeOnce.Do(func)"
      ∧ ((blockOf sk (· == "func{")).map (fun b => b == ["call c.err.Store(err)", "call close(c.closed)"])) = some true
      ∧ count sk (pre "call close(") = 1) := by
  simp only [skel_eval]
  decide +kernel

/-- `OutgoingQueue` is `clients.SendQueue(addr)` with no closed check. -/
theorem outgoingQueue_shape : skel_OutgoingQueue = ["call c.clients.SendQueue(addr)", "return"] := rfl

/-- `SendQueue`: found ⇒ `heap.Fix(inner, i)`, otherwise make the queue and `heap.Push`;
`removeExpired`: a loop around `heap.Pop(inner)`; `Pop` deletes from the index and closes the queue;
`Push` panics only on a duplicate; `Len` panics only on inconsistent lengths; the sweeper sleeps
`timeout / 2` and calls `removeExpired(now, timeout)` under the lock; `ClientMap.SendQueue` calls the
inner one under the lock with `time.Now()`. -/
theorem clientMap_shape :
    skel_cmSendQueue = ["if ok{", "call heap.Fix(inner, i)", "}else{", "makechan cap=queueSize",
                        "call heap.Push(inner, record)", "}", "return"]
    ∧ skel_cmRemoveExpired = ["for{", "call heap.Pop(inner)", "}"]
    ∧ before skel_cmPop (· == "call delete(inner.byAddr, record.Addr)") (· == "call close(record.SendQueue)") = true
    ∧ count skel_cmPop (pre "call close(") = 1
    ∧ ((blockOf skel_cmPush (· == "if ok{")).map (fun b => b.all (pre "call panic("))) = some true
    ∧ ((blockOf skel_cmLen (· == "if len(inner.byAge) != len(inner.byAddr){")).map (fun b => b.all (pre "call panic("))) = some true
    ∧ before skel_NewClientMap (· == "call time.Sleep(timeout / 2)") (· == "call m.lock.Lock()") = true
    ∧ before skel_NewClientMap (· == "call m.lock.Lock()") (· == "call m.inner.removeExpired(now, timeout)") = true
    ∧ before skel_NewClientMap (· == "call m.inner.removeExpired(now, timeout)") (· == "call m.lock.Unlock()") = true
    ∧ skel_ClientMapSendQueue = ["call m.lock.Lock()", "defer m.lock.Unlock()",
                                 "call m.inner.SendQueue(addr, time.Now())", "return"] := by
  simp only [skel_eval]
  decide +kernel

/-- `dialLoop`: the non-blocking `closed` check precedes the dial; `closeWithError` is called only in the
dial-error branch, which returns; `exchange(conn)` is followed by `conn.Close()`; no other exit. -/
theorem dialLoop_shape :
    skel_dialLoop.head? = some "for{"
    ∧ before skel_dialLoop (· == "recv c.closed") (· == "call c.dialContext(ctx)") = true
    ∧ before skel_dialLoop (· == "call c.dialContext(ctx)") (· == "call c.exchange(conn)") = true
    ∧ before skel_dialLoop (· == "call c.exchange(conn)") (· == "call conn.Close()") = true
    ∧ count skel_dialLoop (· == "call c.exchange(conn)") = 1 ∧ count skel_dialLoop (· == "call conn.Close()") = 1
    ∧ count skel_dialLoop (pre "call c.closeWithError(") = 1
    ∧ ((blockOf skel_dialLoop (· == "if err != nil{")).map
        (fun b => b.contains "call c.closeWithError(err)" && b.getLast? == some "return"
                  && !b.contains "call c.exchange(conn)")) = some true
    ∧ count skel_dialLoop (· == "return") = 2 ∧ count skel_dialLoop (· == "break") = 0 := by
  simp only [skel_eval]
  decide +kernel

/-- `RedialPacketConn.ReadFrom` / `WriteTo`: the only error source is the `closed` check (every
`return` that can carry an error follows a `recv c.closed`); `WriteTo` copies, then sends on
`c.sendQueue` inside a select with a default arm; `ReadFrom` waits on `closed` and `recvQueue` only. -/
theorem redialApi_shape :
    skel_redialWriteTo.take 8 = ["select{", "case:", "recv c.closed", "do:", "return", "default:", "do:", "}"]
    ∧ before skel_redialWriteTo (pre "call copy(buf, p)") (· == "send c.sendQueue") = true
    ∧ count skel_redialWriteTo (pre "send ") = 1 ∧ count skel_redialWriteTo (· == "default:") = 2
    ∧ skel_redialReadFrom.take 8 = ["select{", "case:", "recv c.closed", "do:", "return", "default:", "do:", "}"]
    ∧ (skel_redialReadFrom.filter (pre "recv ")) = ["recv c.closed", "recv c.closed", "recv c.recvQueue"]
    ∧ count skel_redialReadFrom (pre "send ") = 0 := by
  simp only [skel_eval]
  decide +kernel

/-- The structure of `exchange` the LTS was written against (everything except the capacities):
two channels; a reader goroutine `select{closed | writeErrCh | default}; ReadFrom; err ⇒ send
readErrCh; non-blocking send on recvQueue` with deferred `close(readErrCh)`; a writer goroutine
`select{closed | readErrCh | sendQueue ⇒ WriteTo; err ⇒ send writeErrCh}` with deferred
`close(writeErrCh)`; and the final `select{readErrCh | writeErrCh}` without a `closed` arm. -/
def expected_exchange : List String := [
  "go{", "defer close(readErrCh)", "for{",
  "select{", "case:", "recv c.closed", "do:", "return", "case:", "recv writeErrCh", "do:", "return", "default:", "do:", "}",
  "call conn.ReadFrom(buf[:])", "if err != nil{", "send readErrCh", "return", "}",
  "select{", "case:", "send c.recvQueue", "do:", "default:", "do:", "}",
  "}", "}",
  "go{", "defer close(writeErrCh)", "for{",
  "select{", "case:", "recv c.closed", "do:", "return", "case:", "recv readErrCh", "do:", "return",
  "case:", "recv c.sendQueue", "do:", "call conn.WriteTo(p, c.remoteAddr)", "if err != nil{", "send writeErrCh", "return", "}", "}",
  "}", "}",
  "select{", "case:", "recv readErrCh", "do:", "case:", "recv writeErrCh", "do:", "}"]

theorem exchange_shape :
    skel_exchange.filter (fun l => !(pre "makechan" l)) = expected_exchange
    ∧ skel_exchange.take 2 = skel_exchange.filter (pre "makechan")
    ∧ Redial.Source.errCaps.length = 2 ∧ Redial.Source.errCaps.all Option.isSome = true := by
  simp only [skel_eval]
  decide +kernel

/-- **Both error channels are buffered** (capacity ≥ 1): the hypothesis of
`C17.no_retained_goroutine`.  Fails on the pinned tree, where `make(chan error)` gives 0 (F12; see
`C17.pinned_reader_leak_write_first`). -/
theorem errch_buffered : 1 ≤ Redial.Source.capR ∧ 1 ≤ Redial.Source.capW := by decide +kernel

/-- `C17.no_retained_goroutine` at the capacities read from the regenerated skeleton.  It stands here because
its hypothesis is the tie above: `Props/C17.lean` is about any capacities and does not see the source. -/
theorem no_retained_goroutine_source (s : Redial.St)
    (h : Redial.Reachable Redial.Source.capR Redial.Source.capW s) (k : Nat) (hc : s.cclosed k = true) :
    (0 < Redial.rank s k → ∃ l ∈ Redial.groupLabels k,
        (Redial.step Redial.Source.capR Redial.Source.capW s l).isSome = true)
    ∧ (∃ ls s', (∀ l ∈ ls, l ∈ Redial.groupLabels k) ∧ ls.length ≤ Redial.rank s k
        ∧ Redial.run Redial.Source.capR Redial.Source.capW s ls = some s' ∧ Redial.finished s' k) := by
  have r := C17.no_retained_goroutine _ _ errch_buffered.1 errch_buffered.2 s h k hc
  exact ⟨r.1, r.2.2⟩

end Snowflake.Tie.Turbotunnel
