import Snowflake.Generated.Util
import Snowflake.Model.Util
import Snowflake.Base.Skel
import Snowflake.Tie.Byte
import Snowflake.Tie.SkelEval
/-!
Tie obligations for C08: the definition regenerated from `common/util/util.go IsLocal` equals the
interval model for every byte slice; the filter loop of `StripLocalAddresses` still has the nested
guards, the `continue` and the single `append` that `Util.stripLoop` mirrors.
-/
namespace Snowflake.Tie.Util
open Snowflake.Util Snowflake.GoStr Snowflake.Skel

theorem beq_toNat (x y : UInt8) : (x == y) = (x.toNat == y.toNat) := by
  rw [Bool.eq_iff_iff]; simp [UInt8.toNat_inj]

/-- `b & 0xf0 == 16` is `16 ≤ b ≤ 31` -/
theorem mask_f0 (x : UInt8) : (x &&& 240 == 16) = (decide (16 ≤ x.toNat) && decide (x.toNat ≤ 31)) :=
  forall_u8 x (by decide +kernel)
/-- `b & 0xc0 == 64` is `64 ≤ b ≤ 127` -/
theorem mask_c0 (x : UInt8) : (x &&& 192 == 64) = (decide (64 ≤ x.toNat) && decide (x.toNat ≤ 127)) :=
  forall_u8 x (by decide +kernel)
/-- `b & 0xfe == 0xfc` is `252 ≤ b ≤ 253` -/
theorem mask_fe (x : UInt8) : (x &&& 254 == 252) = (decide (252 ≤ x.toNat) && decide (x.toNat ≤ 253)) :=
  forall_u8 x (by decide +kernel)

theorem isLocal_tie (ip : List UInt8) : Gen.Util.IsLocal ip = isLocal ip := by
  unfold Gen.Util.IsLocal isLocal
  cases to4 ip with
  | none => simp only [mask_fe]
  | some ip4 => simp only [mask_f0, mask_c0]; simp only [beq_toNat, UInt8.reduceToNat]

open Snowflake.Gen.Util in
/-- `StripLocalAddresses`: an unparseable description is returned unchanged; an attribute is skipped only
under the three nested guards — ICE candidate / host candidate / address local, unspecified or loopback —
and otherwise appended, once; the filtered list replaces the media section's attributes. -/
theorem strip_listing :
    before stmts_StripLocalAddresses (· == "assign err := desc.Unmarshal([]byte(str))") (· == "range desc.MediaDescriptions{") = true
    ∧ blockOf stmts_StripLocalAddresses (· == "if err != nil{") = some ["return str"]
    ∧ blockOf stmts_StripLocalAddresses (· == "if a.IsICECandidate(){") = some [
        "assign c, err := ice.UnmarshalCandidate(a.Value)",
        "if err == nil && c.Type() == ice.CandidateTypeHost{",
        "assign ip := net.ParseIP(c.Address())",
        "if ip != nil && (IsLocal(ip) || ip.IsUnspecified() || ip.IsLoopback()){",
        "continue",
        "}",
        "}"]
    ∧ blockOf stmts_StripLocalAddresses (· == "range m.Attributes{") = some [
        "if a.IsICECandidate(){",
        "assign c, err := ice.UnmarshalCandidate(a.Value)",
        "if err == nil && c.Type() == ice.CandidateTypeHost{",
        "assign ip := net.ParseIP(c.Address())",
        "if ip != nil && (IsLocal(ip) || ip.IsUnspecified() || ip.IsLoopback()){",
        "continue",
        "}",
        "}",
        "}",
        "assign attrs = append(attrs, a)"]
    ∧ count stmts_StripLocalAddresses (· == "continue") = 1
    ∧ before stmts_StripLocalAddresses (· == "assign attrs := make([]sdp.Attribute, 0)") (· == "range m.Attributes{") = true
    ∧ before stmts_StripLocalAddresses (· == "assign attrs = append(attrs, a)") (· == "assign m.Attributes = attrs") = true
    ∧ before stmts_StripLocalAddresses (· == "assign m.Attributes = attrs") (· == "assign bts, err := desc.Marshal()") = true
    ∧ stmts_StripLocalAddresses.getLast? = some "return string(bts)"
    ∧ count stmts_StripLocalAddresses (pre "return") = 3 := by
  simp only [skel_eval]
  decide +kernel

end Snowflake.Tie.Util
