/- How the ties compare a translated predicate on bytes with the model's: on its 256 instances, by evaluation. -/
namespace Snowflake.Tie

@[elab_as_elim]
theorem forall_u8 {P : UInt8 → Prop} (x : UInt8) (h : ∀ i : Fin 256, P (UInt8.ofNat i.val)) : P x := by
  simpa using h ⟨x.toNat, x.toNat_lt⟩

end Snowflake.Tie
