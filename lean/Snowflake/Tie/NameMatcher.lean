import Snowflake.Generated.NameMatcher
import Snowflake.Model.NameMatcher
import Snowflake.Base.Skel
import Snowflake.Tie.SkelEval
/-!
Tie obligations for C06: the functions regenerated from `common/namematcher/matcher.go` and the
relay-URL condition of `proxy/lib.runSession` equal the model; the broker's `ProxyPolls` still
performs the pattern check (and returns) before the poll is registered.
-/
namespace Snowflake.Tie.NameMatcher
open Snowflake.NameMatcher

def toModel (m : Gen.NameMatcher.NameMatcher) : Matcher := ⟨m.exact, m.suffix⟩

theorem new_tie (rule : List UInt8) : toModel (Gen.NameMatcher.NewNameMatcher rule) = new rule := rfl

theorem isValidRule_tie (rule : List UInt8) : Gen.NameMatcher.IsValidRule rule = isValidRule rule := rfl

theorem isSupersetOf_tie (m o : Gen.NameMatcher.NameMatcher) :
    Gen.NameMatcher.IsSupersetOf m o = isSupersetOf (toModel m) (toModel o) := rfl

theorem isMember_tie (m : Gen.NameMatcher.NameMatcher) (s : List UInt8) :
    Gen.NameMatcher.IsMember m s = isMember (toModel m) s := rfl

theorem proxyRejects_tie (relayURL : List UInt8) (member allow : Bool) (scheme : List UInt8) :
    Gen.NameMatcher.runSession_rejectCond relayURL member allow scheme = proxyRejects relayURL member allow scheme := rfl

/-- `IPC.ProxyPolls`: the pattern check happens once, before the `RequestOffer`, and a failed check returns
without registering the poll. -/
theorem proxyPolls_check_precedes_offer :
    Skel.before Gen.NameMatcher.skel_ProxyPolls (Skel.pre "if !i.ctx.CheckProxyRelayPattern(relayPattern, !relayPatternSupported){")
        (Skel.pre "call i.ctx.RequestOffer(") = true
    ∧ Skel.count Gen.NameMatcher.skel_ProxyPolls (Skel.pre "call i.ctx.RequestOffer(") = 1
    ∧ ((Skel.blockOf Gen.NameMatcher.skel_ProxyPolls (Skel.pre "if !i.ctx.CheckProxyRelayPattern(")).map
          (fun b => b.getLast? == some "return" && !b.any (Skel.pre "call i.ctx.RequestOffer("))) = some true := by
  simp only [skel_eval]
  decide +kernel

end Snowflake.Tie.NameMatcher
