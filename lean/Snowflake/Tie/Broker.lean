import Snowflake.Generated.Broker
import Snowflake.Base.Skel
import Snowflake.Base.SkelStack
import Snowflake.Tie.SkelEval
/-!
Tie obligations for the broker rendezvous model (C02, C03, C04): the synchronisation skeletons
regenerated from `/repo/broker/{broker.go, ipc.go, snowflake-heap.go}` are the ones the hand-written
LTS `Snowflake.Model.Broker` was written against.  Each `expected_*` list is annotated with the labels
of the model it justifies.  A change of lock scope, channel capacity, select arm, `delete`/`close`
site, pool choice or heap order changes a regenerated list and breaks the corresponding obligation.
-/
namespace Snowflake.Tie.Broker
open Snowflake.Gen

/-- waiter goroutine: select between the offer and the proxy timeout; timeout arm takes the lock, and if the snowflake was already popped (index == -1) releases it, receives the offer and forwards it (labels wCrit → wLate → wFwd); otherwise heap.Remove + delete + close under the deferred unlock (label wCrit). No blocking operation while the lock is held. -/
def expected_Broker : List String := [
  "range ctx.proxyPolls{",
  "go{",
  "select{",
  "case:",
  "recv snowflake.offerChannel",
  "do:",
  "send request.offerChannel",
  "case:",
  "recv time.After(time.Second * ProxyTimeout)",
  "call time.After(time.Second * ProxyTimeout)",
  "do:",
  "call ctx.snowflakeLock.Lock()",
  "if snowflake.index == -1{",
  "call ctx.snowflakeLock.Unlock()",
  "recv snowflake.offerChannel",
  "send request.offerChannel",
  "return",
  "}",
  "defer ctx.snowflakeLock.Unlock()",
  "if snowflake.index != -1{",
  "if request.natType == NATUnrestricted{",
  "call heap.Remove(ctx.snowflakes, snowflake.index)",
  "}else{",
  "call heap.Remove(ctx.restrictedSnowflakes, snowflake.index)",
  "}",
  "call delete(ctx.idToSnowflake, snowflake.id)",
  "call close(request.offerChannel)",
  "}",
  "}",
  "}",
  "}"
]

theorem skel_Broker_tie : Broker.skel_Broker = expected_Broker := rfl

/-- poll handler: unbuffered request.offerChannel; send on proxyPolls (label add), then receive (labels wFwd / hIdle). -/
def expected_RequestOffer : List String := [
  "makechan cap=0",
  "send ctx.proxyPolls",
  "recv request.offerChannel",
  "return"
]

theorem skel_RequestOffer_tie : Broker.skel_RequestOffer = expected_RequestOffer := rfl

/-- offerChannel unbuffered, answerChannel capacity 1; push on the heap chosen by `natType == NATUnrestricted` and map insertion in one critical section (label add; `pushU`). -/
def expected_AddSnowflake : List String := [
  "makechan cap=0",
  "makechan cap=1",
  "call ctx.snowflakeLock.Lock()",
  "if natType == NATUnrestricted{",
  "call heap.Push(ctx.snowflakes, snowflake)",
  "}else{",
  "call heap.Push(ctx.restrictedSnowflakes, snowflake)",
  "}",
  "assign ctx.idToSnowflake[id] = snowflake",
  "call ctx.snowflakeLock.Unlock()",
  "return"
]

theorem skel_AddSnowflake_tie : Broker.skel_AddSnowflake = expected_AddSnowflake := rfl

/-- pool choice: unrestricted clients are served from restrictedSnowflakes, all others from snowflakes (`wantU`); pop under the lock, nil when empty (labels cMatch / cDeny). -/
def expected_matchSnowflake : List String := [
  "if natType == NATUnrestricted{",
  "assign snowflakeHeap = i.ctx.restrictedSnowflakes",
  "}else{",
  "assign snowflakeHeap = i.ctx.snowflakes",
  "}",
  "call i.ctx.snowflakeLock.Lock()",
  "defer i.ctx.snowflakeLock.Unlock()",
  "if snowflakeHeap.Len() > 0{",
  "call heap.Pop(snowflakeHeap)",
  "return heap.Pop(snowflakeHeap).(*Snowflake)",
  "}else{",
  "return nil",
  "}"
]

theorem skel_matchSnowflake_tie : Broker.skel_matchSnowflake = expected_matchSnowflake := rfl

/-- bridge lookup before matching (cReject); send on snowflake.offerChannel (wOffer / wLate) or denial (cDeny); select between answer and client timeout (cRecv / cTimer); clean-up critical section (cFin). -/
def expected_ClientOffers : List String := [
  "if err != nil{",
  "call sendClientResponse(&messages.ClientPollResponse{Error: err.Error()}, response)",
  "return",
  "}",
  "if err != nil{",
  "call sendClientResponse(&messages.ClientPollResponse{Error: err.Error()}, response)",
  "return",
  "}",
  "if err != nil{",
  "call sendClientResponse(&messages.ClientPollResponse{Error: err.Error()}, response)",
  "return",
  "}",
  "call i.ctx.GetBridgeInfo(BridgeFingerprint)",
  "if err != nil{",
  "return",
  "}",
  "call i.matchSnowflake(offer.natType)",
  "if snowflake != nil{",
  "send snowflake.offerChannel",
  "}else{",
  "call i.ctx.metrics.lock.Lock()",
  "call i.ctx.metrics.lock.Unlock()",
  "call sendClientResponse(resp, response)",
  "return",
  "}",
  "select{",
  "case:",
  "recv snowflake.answerChannel",
  "do:",
  "call i.ctx.metrics.lock.Lock()",
  "call i.ctx.metrics.lock.Unlock()",
  "call sendClientResponse(resp, response)",
  "call i.ctx.metrics.lock.Lock()",
  "call i.ctx.metrics.lock.Unlock()",
  "case:",
  "recv time.After(time.Second * ClientTimeout)",
  "call time.After(time.Second * ClientTimeout)",
  "do:",
  "call sendClientResponse(resp, response)",
  "}",
  "call i.ctx.snowflakeLock.Lock()",
  "call delete(i.ctx.idToSnowflake, snowflake.id)",
  "call i.ctx.snowflakeLock.Unlock()",
  "return"
]

theorem skel_ClientOffers_tie : Broker.skel_ClientOffers = expected_ClientOffers := rfl

/-- lookup under the lock (aLookup), then a non-blocking send into the answer channel (aSend). -/
def expected_ProxyAnswers : List String := [
  "if err != nil || answer == \"\"{",
  "return",
  "}",
  "call i.ctx.snowflakeLock.Lock()",
  "assign snowflake, ok := i.ctx.idToSnowflake[id]",
  "call i.ctx.snowflakeLock.Unlock()",
  "if !ok || snowflake == nil{",
  "assign success = false",
  "}",
  "if err != nil{",
  "return",
  "}",
  "if success{",
  "select{",
  "case:",
  "send snowflake.answerChannel",
  "do:",
  "default:",
  "do:",
  "}",
  "}",
  "return"
]

theorem skel_ProxyAnswers_tie : Broker.skel_ProxyAnswers = expected_ProxyAnswers := rfl

/-- after RequestOffer: nil ⇒ idle reply; otherwise bridge lookup by the offer's fingerprint and reply with its relay URL (hRespond). -/
def expected_ProxyPollsTail : List String := [
  "if err != nil{",
  "return",
  "}",
  "if !relayPatternSupported{",
  "call i.ctx.metrics.lock.Lock()",
  "call i.ctx.metrics.lock.Unlock()",
  "}else{",
  "call i.ctx.metrics.lock.Lock()",
  "call i.ctx.metrics.lock.Unlock()",
  "}",
  "if !i.ctx.CheckProxyRelayPattern(relayPattern, !relayPatternSupported){",
  "call i.ctx.metrics.lock.Lock()",
  "call i.ctx.metrics.lock.Unlock()",
  "call messages.EncodePollResponseWithRelayURL(\"\", false, \"\", \"\", \"incorrect relay pattern\")",
  "if err != nil{",
  "return",
  "}",
  "return",
  "}",
  "if err != nil{",
  "}else{",
  "call i.ctx.metrics.lock.Lock()",
  "call i.ctx.metrics.lock.Unlock()",
  "}",
  "call i.ctx.RequestOffer(sid, proxyType, natType, clients)",
  "if offer == nil{",
  "call i.ctx.metrics.lock.Lock()",
  "call i.ctx.metrics.lock.Unlock()",
  "call messages.EncodePollResponse(\"\", false, \"\")",
  "if err != nil{",
  "return",
  "}",
  "return",
  "}",
  "if err != nil{",
  "return",
  "}",
  "call i.ctx.bridgeList.GetBridgeInfo(bridgeFingerprint)",
  "if err != nil{",
  "return",
  "}",
  "call messages.EncodePollResponseWithRelayURL(string(offer.sdp), true, offer.natType, relayURL, \"\")",
  "if err != nil{",
  "return",
  "}",
  "return"
]

theorem skel_ProxyPollsTail_tie : Broker.skel_ProxyPollsTail = expected_ProxyPollsTail := rfl

/-- heap order: fewer self-reported clients first (cMatch guard: clients-minimal). -/
def expected_heap_Less : List String := [
  "return sh[i].clients < sh[j].clients"
]

theorem skel_heap_Less_tie : Broker.skel_heap_Less = expected_heap_Less := rfl

/-- index bookkeeping on swap. -/
def expected_heap_Swap : List String := [
  "assign sh[i], sh[j] = sh[j], sh[i]",
  "assign sh[i].index = i",
  "assign sh[j].index = j"
]

theorem skel_heap_Swap_tie : Broker.skel_heap_Swap = expected_heap_Swap := rfl

/-- index = position on push. -/
def expected_heap_Push : List String := [
  "assign n := len(*sh)",
  "assign snowflake := s.(*Snowflake)",
  "assign snowflake.index = n",
  "assign *sh = append(*sh, snowflake)"
]

theorem skel_heap_Push_tie : Broker.skel_heap_Push = expected_heap_Push := rfl

/-- index = -1 on pop (the waiter's `snowflake.index == -1` test means "popped or removed"). -/
def expected_heap_Pop : List String := [
  "assign flakes := *sh",
  "assign n := len(flakes)",
  "assign snowflake := flakes[n-1]",
  "assign snowflake.index = -1",
  "assign *sh = flakes[0 : n-1]",
  "return snowflake"
]

theorem skel_heap_Pop_tie : Broker.skel_heap_Pop = expected_heap_Pop := rfl

/-- The two protocol waits are positive constants (their value is used by the harness only). -/
theorem timeouts_positive : Broker.ClientTimeout > 0 ∧ Broker.ProxyTimeout > 0 := by decide

/-- The three NAT names are pairwise distinct, so the `==` tests of the source separate them as the
model's `NatT` does. -/
theorem nat_names_distinct :
    Broker.NATUnknown ≠ Broker.NATRestricted ∧ Broker.NATUnknown ≠ Broker.NATUnrestricted
    ∧ Broker.NATRestricted ≠ Broker.NATUnrestricted := by decide

/-! ## Registration accounting sites (events of `Model/BrokerReg.lean`)

Each event of the registration model is one critical section of the source that contains exactly the listed
effects: `add` = one heap push (per branch), one gauge `Inc`, one id-map store; `timeout` = heap remove, one gauge
`Dec`, one id-map delete, only when the poll is still queued; `cleanup` = one gauge `Dec` and one id-map delete at
the end of `ClientOffers`, reached on both arms of the answer/timeout `select`; nothing else touches the gauge or
the id map (`ProxyAnswers` only reads it). -/

def anyGauge (l : String) : Bool := Snowflake.Skel.contains "AvailableProxies" l
def isGauge (op : String) (l : String) : Bool :=
  l.startsWith "call " && anyGauge l && l.endsWith ("." ++ op ++ "()")
def mapWrite (l : String) : Bool :=
  (l.startsWith "assign " && Snowflake.Skel.contains "idToSnowflake[" l && !(l.startsWith "assign snowflake, ok")) ||
  (l.startsWith "call delete(" && Snowflake.Skel.contains "idToSnowflake" l)

attribute [skel_eval] isGauge.eq_unfold mapWrite.eq_unfold anyGauge.eq_unfold

open Snowflake.Skel in
theorem registration_sites :
    -- add
    count Broker.reg_AddSnowflake anyGauge = 1 ∧ count Broker.reg_AddSnowflake (isGauge "Inc") = 1
    ∧ count Broker.reg_AddSnowflake mapWrite = 1
    ∧ Broker.reg_AddSnowflake.contains "assign ctx.idToSnowflake[id] = snowflake" = true
    ∧ count Broker.reg_AddSnowflake (pre "call heap.Push(") = 2
    ∧ before Broker.reg_AddSnowflake (· == "call ctx.snowflakeLock.Lock()") (pre "call heap.Push(") = true
    ∧ before Broker.reg_AddSnowflake mapWrite (· == "call ctx.snowflakeLock.Unlock()") = true
    ∧ before Broker.reg_AddSnowflake (isGauge "Inc") (· == "call ctx.snowflakeLock.Unlock()") = true
    -- timeout
    ∧ count Broker.reg_Broker anyGauge = 1 ∧ count Broker.reg_Broker (isGauge "Dec") = 1
    ∧ count Broker.reg_Broker mapWrite = 1
    ∧ blockOf Broker.reg_Broker (· == "if snowflake.index != -1{") = some [
        "if request.natType == NATUnrestricted{",
        "call heap.Remove(ctx.snowflakes, snowflake.index)",
        "}else{",
        "call heap.Remove(ctx.restrictedSnowflakes, snowflake.index)",
        "}",
        "call ctx.metrics.promMetrics.AvailableProxies.With(prometheus.Labels{\"nat\": request.natType, \"type\": request.proxyType}).Dec()",
        "call delete(ctx.idToSnowflake, snowflake.id)",
        "call close(request.offerChannel)"]
    -- cleanup: after the select, at the top level of ClientOffers
    ∧ count Broker.reg_ClientOffers anyGauge = 1 ∧ count Broker.reg_ClientOffers (isGauge "Dec") = 1
    ∧ count Broker.reg_ClientOffers mapWrite = 1
    ∧ Broker.reg_ClientOffers.reverse.take 5 = [
        "return",
        "call i.ctx.snowflakeLock.Unlock()",
        "call delete(i.ctx.idToSnowflake, snowflake.id)",
        "call i.ctx.metrics.promMetrics.AvailableProxies.With(prometheus.Labels{\"nat\": snowflake.natType, \"type\": snowflake.proxyType}).Dec()",
        "call i.ctx.snowflakeLock.Lock()"]
    ∧ blockOf Broker.reg_ClientOffers (· == "select{") = some [
        "case:", "recv snowflake.answerChannel", "do:",
        "call i.ctx.metrics.lock.Lock()", "call i.ctx.metrics.lock.Unlock()",
        "call i.ctx.metrics.lock.Lock()", "call i.ctx.metrics.lock.Unlock()",
        "case:", "recv time.After(time.Second * ClientTimeout)", "call time.After(time.Second * ClientTimeout)", "do:"]
    -- nothing else
    ∧ count Broker.reg_ProxyAnswers anyGauge = 0 ∧ count Broker.reg_ProxyAnswers mapWrite = 0 := by
  simp only [skel_eval]
  decide +kernel

end Snowflake.Tie.Broker
