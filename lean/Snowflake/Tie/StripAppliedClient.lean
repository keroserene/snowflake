import Snowflake.Generated.Util
import Snowflake.Model.Util
import Snowflake.Base.SkelFlow
import Snowflake.Tie.SkelEval
/-!
Tie obligation for the last clause of C08 ("applied before the offer leaves the process"), client side:
`(*BrokerChannel).Negotiate` (client/lib/rendezvous.go) still applies `util.StripLocalAddresses`, under exactly
the negated `keepLocalAddresses` flag, to the one description it serialises into the request — the
model's `Util.leaves`, about which `Props/C08.lean` proves `sent_description_spec`.

The statement list is regenerated with every call, composite literal, assignment, condition and returned
expression, with the identifiers of each statement (`…_ids`) and the signature.  The obligations are data-flow
facts: *all* statements that mention the description variable, the flag, the serialised string, the encoded
request and the transport are listed, so any additional use — a copy of the original kept aside, a second
path to the transport, a further condition on the reassignment — changes one of the lists.

One module per sender, so that a change to one function does not take the other ties of C08 down with it.
-/
namespace Snowflake.Tie.StripAppliedClient
open Snowflake.Skel

open Snowflake.Gen.Util
private abbrev N := stmts_Negotiate
private abbrev Nw := linesWith stmts_Negotiate stmts_Negotiate_ids

/-- **`Negotiate` sends `leaves keepLocalAddresses offer`** (1/2: the guarded reassignment).  The flag is read
in one place only, the top-level guard `if !bc.keepLocalAddresses` without `else`; its body reassigns `offer`
to the stripped description, whatever stripping returns; no copy of the parameter is kept, nothing else is
assigned to it, and it is passed only to `util.SerializeSessionDescription`. -/
theorem negotiate_strips_under_flag :
    stmts_Negotiate_ids.length = N.length
    ∧ stmts_Negotiate_sig = "func (bc *BrokerChannel) Negotiate(offer *webrtc.SessionDescription) ( *webrtc.SessionDescription, error)"
    ∧ Nw "keepLocalAddresses" = ["if !bc.keepLocalAddresses{"]
    ∧ stacksOf N (· == "if !bc.keepLocalAddresses{") = [[]]
    ∧ blockOf N (· == "if !bc.keepLocalAddresses{") = some [
        "lit webrtc.SessionDescription{ Type: offer.Type, SDP: util.StripLocalAddresses(offer.SDP), }",
        "call util.StripLocalAddresses(offer.SDP)",
        "assign offer = &webrtc.SessionDescription{ Type: offer.Type, SDP: util.StripLocalAddresses(offer.SDP), }"]
    ∧ closer N (· == "if !bc.keepLocalAddresses{") = some "}"
    ∧ Nw "offer" = [
        "lit webrtc.SessionDescription{ Type: offer.Type, SDP: util.StripLocalAddresses(offer.SDP), }",
        "call util.StripLocalAddresses(offer.SDP)",
        "assign offer = &webrtc.SessionDescription{ Type: offer.Type, SDP: util.StripLocalAddresses(offer.SDP), }",
        "call util.SerializeSessionDescription(offer)",
        "assign offerSDP, err := util.SerializeSessionDescription(offer)"]
    ∧ Nw "StripLocalAddresses" = [
        "lit webrtc.SessionDescription{ Type: offer.Type, SDP: util.StripLocalAddresses(offer.SDP), }",
        "call util.StripLocalAddresses(offer.SDP)",
        "assign offer = &webrtc.SessionDescription{ Type: offer.Type, SDP: util.StripLocalAddresses(offer.SDP), }"] := by
  decide +kernel

/-- **`Negotiate` sends `leaves keepLocalAddresses offer`** (2/2: from the serialiser to the transport).
`offerSDP` only becomes the `Offer` field of the one `ClientPollRequest` (the extractor cuts long
expressions: the literal is compared up to its second field), `req` is only encoded, `encReq` only handed to
`bc.Rendezvous.Exchange`, the only use of the transport; all at the top level, in this order, after the guard. -/
theorem negotiate_sends_serialised :
    Nw "SerializeSessionDescription" = [
        "call util.SerializeSessionDescription(offer)",
        "assign offerSDP, err := util.SerializeSessionDescription(offer)"]
    ∧ startAll (Nw "offerSDP") [
        "assign offerSDP, err := util.SerializeSessionDescription(offer)",
        "lit messages.ClientPollRequest{ Offer: offerSDP, NAT: bc.natType, ",
        "assign req := &messages.ClientPollRequest{ Offer: offerSDP, NAT: bc.natType, "] = true
    ∧ startAll (Nw "req") [
        "assign req := &messages.ClientPollRequest{ Offer: offerSDP, NAT: bc.natType, ",
        "call req.EncodeClientPollRequest()",
        "assign encReq, err := req.EncodeClientPollRequest()"] = true
    ∧ Nw "encReq" = [
        "assign encReq, err := req.EncodeClientPollRequest()",
        "call bc.Rendezvous.Exchange(encReq)",
        "assign encResp, err := bc.Rendezvous.Exchange(encReq)"]
    ∧ Nw "Rendezvous" = [
        "call bc.Rendezvous.Exchange(encReq)",
        "assign encResp, err := bc.Rendezvous.Exchange(encReq)"]
    ∧ Nw "Exchange" = Nw "Rendezvous"
    ∧ stacksOf N (· == "call util.SerializeSessionDescription(offer)") = [[]]
    ∧ stacksOf N (· == "call req.EncodeClientPollRequest()") = [[]]
    ∧ stacksOf N (· == "call bc.Rendezvous.Exchange(encReq)") = [[]]
    ∧ before N (· == "if !bc.keepLocalAddresses{") (· == "call util.SerializeSessionDescription(offer)") = true
    ∧ before N (· == "call util.SerializeSessionDescription(offer)") (· == "call req.EncodeClientPollRequest()") = true
    ∧ before N (· == "call req.EncodeClientPollRequest()") (· == "call bc.Rendezvous.Exchange(encReq)") = true
    ∧ has N detached = false := by
  simp only [skel_eval]
  decide +kernel


end Snowflake.Tie.StripAppliedClient
