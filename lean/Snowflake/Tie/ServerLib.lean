import Snowflake.Generated.ServerLib
import Snowflake.Model.ClientAddr
import Snowflake.Base.SkelStack
import Snowflake.Tie.SkelEval
/-!
Tie obligations for C18.  `clientAddr`, `newClientIDMap`, `Set` and `Get` are outside the translator's
expression subset (maps, slices of structs, `net.ParseIP`), so they are tied by *statement listings*
regenerated from `server/lib/http.go` and `server/lib/turbotunnel.go` (guards, order and presence of the
statements that `Model/ClientAddr.lean` mirrors) and by the differential harness
`harness/c18_serverlib_test.go`.

The attribution clause (`Model/Attribution.lean`: a carrier performs `Set id (clientAddr ip)`; a session
performs one `Get id` when it is established and every stream reports that result) is tied by listings of
`httpHandler.ServeHTTP`, `turbotunnelMode` and `SnowflakeListener.acceptStreams`, their signatures, and the
list of all functions of the package that mention `clientIDAddrMap` / `SnowflakeClientConn` / `.address`;
dynamically by `harness/c18_attr_test.go`.
-/
namespace Snowflake.Tie.ServerLib
open Snowflake.Skel Snowflake.Gen.ServerLib

def has (sk : List String) (l : String) : Bool := sk.contains l

def subAt : List Char → List Char → Bool
  | [], p => p.isEmpty
  | c :: cs, p => p.isPrefixOf (c :: cs) || subAt cs p

def mentions (l p : String) : Bool := subAt l.toList p.toList

attribute [skel_eval] mentions.eq_unfold

theorem capacity_tie :
    0 < clientIDAddrMapCapacity ∧ clientIDAddrMap_init = "newClientIDMap(clientIDAddrMapCapacity)" := by
  decide +kernel

/-- `clientAddr`: three guarded early returns of the empty address (empty parameter / `net.ParseIP` gives
nil / `IsUnspecified`), then the `TCPAddr{IP, Port: 1, Zone: ""}.String()` result. -/
theorem clientAddr_listing :
    blockOf stmts_clientAddr (· == "if clientIPParam == \"\"{") = some ["return ClientMapAddr(\"\")"]
    ∧ blockOf stmts_clientAddr (· == "if clientIP == nil{") = some ["return ClientMapAddr(\"\")"]
    ∧ blockOf stmts_clientAddr (· == "if clientIP.IsUnspecified(){") = some ["return ClientMapAddr(\"\")"]
    ∧ before stmts_clientAddr (· == "if clientIPParam == \"\"{") (· == "assign clientIP := net.ParseIP(clientIPParam)") = true
    ∧ before stmts_clientAddr (· == "assign clientIP := net.ParseIP(clientIPParam)") (· == "if clientIP == nil{") = true
    ∧ before stmts_clientAddr (· == "if clientIP == nil{") (· == "if clientIP.IsUnspecified(){") = true
    ∧ stmts_clientAddr.getLast? = some "return ClientMapAddr((&net.TCPAddr{IP: clientIP, Port: 1, Zone: \"\"}).String())"
    ∧ count stmts_clientAddr (pre "return") = 4 ∧ count stmts_clientAddr (pre "assign") = 1
    ∧ count stmts_clientAddr (pre "if ") = 3 := by
  simp only [skel_eval]
  decide +kernel

/-- `newClientIDMap`: `capacity` zero entries, `oldest = 0`, empty index. -/
theorem newClientIDMap_listing :
    (newClientIDMap_ret.startsWith "&clientIDMap{"
      && mentions newClientIDMap_ret "entries: make([]struct { clientID turbotunnel.ClientID addr net.Addr }, capacity)"
      && mentions newClientIDMap_ret "oldest: 0"
      && mentions newClientIDMap_ret "current: make(map[turbotunnel.ClientID]int)") = true := by
  simp only [skel_eval]
  decide +kernel

/-- `Set` (1): takes the lock, and returns on capacity 0 before any mutation. -/
theorem set_cap0_listing :
    stmts_Set.head? = some "call m.lock.Lock()" ∧ has stmts_Set "defer m.lock.Unlock()" = true
    ∧ blockOf stmts_Set (· == "if len(m.entries) == 0{") = some ["return"]
    ∧ before stmts_Set (· == "if len(m.entries) == 0{") (pre "assign") = true
    ∧ count stmts_Set (pre "return") = 1 := by
  simp only [skel_eval]
  decide +kernel

/-- `Set` (2): the old key of the slot is deleted from the index only under `ok && i == m.oldest`, once,
before the slot's key is overwritten and the new key inserted. -/
theorem set_delete_listing :
    before stmts_Set (· == "assign i, ok := m.current[m.entries[m.oldest].clientID]") (· == "if ok && i == m.oldest{") = true
    ∧ blockOf stmts_Set (· == "if ok && i == m.oldest{") = some ["call delete(m.current, m.entries[m.oldest].clientID)"]
    ∧ count stmts_Set (pre "call delete(") = 1
    ∧ before stmts_Set (pre "call delete(") (· == "assign m.entries[m.oldest].clientID = clientID") = true
    ∧ before stmts_Set (pre "call delete(") (· == "assign m.current[clientID] = m.oldest") = true
    ∧ count stmts_Set (pre "if ") = 2 := by
  simp only [skel_eval]
  decide +kernel

/-- `Set` (3): slot and index are written at `m.oldest`, then `oldest` advances modulo the capacity as
the last statement; nothing else is assigned. -/
theorem set_write_listing :
    has stmts_Set "assign m.entries[m.oldest].addr = addr" = true
    ∧ before stmts_Set (· == "assign m.entries[m.oldest].clientID = clientID") (· == "assign m.oldest = (m.oldest + 1) % len(m.entries)") = true
    ∧ before stmts_Set (· == "assign m.entries[m.oldest].addr = addr") (· == "assign m.oldest = (m.oldest + 1) % len(m.entries)") = true
    ∧ before stmts_Set (· == "assign m.current[clientID] = m.oldest") (· == "assign m.oldest = (m.oldest + 1) % len(m.entries)") = true
    ∧ stmts_Set.getLast? = some "assign m.oldest = (m.oldest + 1) % len(m.entries)"
    ∧ count stmts_Set (pre "assign") = 5 := by
  simp only [skel_eval]
  decide +kernel

/-- `Get`: index lookup, then the slot's address, or `(nil, false)`; no mutation. -/
theorem get_listing :
    stmts_Get.head? = some "call m.lock.Lock()" ∧ has stmts_Get "defer m.lock.Unlock()" = true
    ∧ before stmts_Get (· == "assign i, ok := m.current[clientID]") (· == "if ok{") = true
    ∧ blockOf stmts_Get (· == "if ok{") = some ["return m.entries[i].addr, true"]
    ∧ has stmts_Get "return nil, false" = true
    ∧ count stmts_Get (pre "assign") = 1 ∧ count stmts_Get (pre "return") = 2
    ∧ count stmts_Get (pre "call delete(") = 0 := by
  simp only [skel_eval]
  decide +kernel

def getLine : String := "assign addr, ok := clientIDAddrMap.Get(conn.RemoteAddr().(turbotunnel.ClientID))"
def queueLine : String := "call l.queueConn(&SnowflakeClientConn{Conn: stream, address: addr})"

/-- Only two functions of the package touch the global map — `turbotunnelMode` (the `Set`) and
`acceptStreams` (the `Get`), once each; `turbotunnelMode` is called from `ServeHTTP` only and
`acceptStreams` from `acceptSessions` only (one call per KCP session); the `SnowflakeClientConn` wrapper is
built in `acceptStreams` only and its `address` field is read by `RemoteAddr` and written nowhere else. -/
theorem attribution_sites :
    users_clientIDAddrMap = [("SnowflakeListener.acceptStreams", 1), ("turbotunnelMode", 1)]
    ∧ users_turbotunnelMode = [("httpHandler.ServeHTTP", 1)]
    ∧ users_acceptStreams = [("SnowflakeListener.acceptSessions", 1)]
    ∧ users_SnowflakeClientConn = [("SnowflakeListener.acceptStreams", 1)]
    ∧ users_address = [("SnowflakeClientConn.RemoteAddr", 1)]
    ∧ remoteAddr_ret = "conn.address" := by
  decide +kernel

/-- `acceptStreams` (1a) — model event `establish s id`: exactly one access to the map, a `Get` keyed by
the ClientID of *this* KCP session (`conn`, the only parameter, never reassigned), whose result is the only
assignment to `addr`. -/
theorem acceptStreams_get_once :
    sig_acceptStreams = [("conn", "*kcp.UDPSession"), ("", "error")]
    ∧ count stmts_acceptStreams (pre "call clientIDAddrMap.") = 1
    ∧ count stmts_acceptStreams (· == "call clientIDAddrMap.Get(conn.RemoteAddr().(turbotunnel.ClientID))") = 1
    ∧ count stmts_acceptStreams (· == getLine) = 1
    ∧ count stmts_acceptStreams (pre "assign addr") = 1
    ∧ count stmts_acceptStreams (pre "assign conn") = 0 := by
  simp only [skel_eval]
  decide +kernel

/-- `acceptStreams` (1b) — the lookup happens once per session, when it is established: at the top level of
the function, before its only loop; nothing inside the loop touches the map or assigns `addr`. -/
theorem acceptStreams_get_before_loop :
    (topLevel stmts_acceptStreams).contains getLine = true
    ∧ count stmts_acceptStreams (pre "for") = 1 ∧ count stmts_acceptStreams (pre "range ") = 0
    ∧ count stmts_acceptStreams (pre "go") = 0 ∧ count stmts_acceptStreams (pre "func{") = 0
    ∧ count stmts_acceptStreams (pre "defer") = 0
    ∧ before stmts_acceptStreams (· == getLine) (· == "for{") = true
    ∧ noneInside stmts_acceptStreams (pre "call clientIDAddrMap.") (pre "for") = true
    ∧ noneInside stmts_acceptStreams (pre "assign addr") (pre "for") = true := by
  simp only [skel_eval]
  decide +kernel

/-- `acceptStreams` (2) — model event `stream s`: every accepted stream is queued wrapped in a
`SnowflakeClientConn` whose `address` is the `addr` of the lookup above; that is the only `queueConn` and the
only `SnowflakeClientConn` literal. -/
theorem acceptStreams_stamps_every_stream :
    has stmts_acceptStreams "assign sess, err := smux.Server(conn, smuxConfig)" = true
    ∧ count stmts_acceptStreams (pre "assign sess") = 1
    ∧ count stmts_acceptStreams (· == "call sess.AcceptStream()") = 1
    ∧ has stmts_acceptStreams "assign stream, err := sess.AcceptStream()" = true
    ∧ count stmts_acceptStreams (pre "assign stream") = 1
    ∧ count stmts_acceptStreams (pre "call l.queueConn(") = 1
    ∧ has stmts_acceptStreams queueLine = true
    ∧ count stmts_acceptStreams (pre "lit ") = 1
    ∧ has stmts_acceptStreams "lit SnowflakeClientConn{Conn: stream, address: addr}" = true
    ∧ allInside stmts_acceptStreams (· == "call sess.AcceptStream()") (· == "for{") = true
    ∧ allInside stmts_acceptStreams (· == queueLine) (· == "for{") = true
    ∧ before stmts_acceptStreams (· == "for{") (· == "assign stream, err := sess.AcceptStream()") = true
    ∧ before stmts_acceptStreams (· == "assign stream, err := sess.AcceptStream()") (· == queueLine) = true
    ∧ stmts_acceptStreams.getLast? = some "}" := by
  simp only [skel_eval]
  decide +kernel

/-- `ServeHTTP` — the address of a carrier is `clientAddr` of the request's `client_ip` parameter, handed to
the single call `turbotunnelMode(conn, addr, handler.pconn)` in the `switch` arm of the matching token. -/
theorem serveHTTP_addr_listing :
    sig_clientAddr = [("clientIPParam", "string"), ("", "net.Addr")]
    ∧ has stmts_ServeHTTP "assign clientIPParam := r.URL.Query().Get(\"client_ip\")" = true
    ∧ count stmts_ServeHTTP (pre "assign clientIPParam") = 1
    ∧ has stmts_ServeHTTP "assign addr := clientAddr(clientIPParam)" = true
    ∧ count stmts_ServeHTTP (pre "assign addr") = 1
    ∧ count stmts_ServeHTTP (pre "call clientAddr(") = 1
    ∧ has stmts_ServeHTTP "assign conn := websocketconn.New(ws)" = true
    ∧ count stmts_ServeHTTP (pre "assign conn") = 1
    ∧ before stmts_ServeHTTP (pre "assign clientIPParam") (pre "assign addr") = true
    ∧ before stmts_ServeHTTP (pre "assign addr") (pre "call turbotunnelMode(") = true
    ∧ count stmts_ServeHTTP (pre "call turbotunnelMode(") = 1
    ∧ has stmts_ServeHTTP "call turbotunnelMode(conn, addr, handler.pconn)" = true
    ∧ allInside stmts_ServeHTTP (pre "call turbotunnelMode(") (· == "switch{") = true
    ∧ before stmts_ServeHTTP (· == "case bytes.Equal(token[:], turbotunnel.Token[:]):") (pre "call turbotunnelMode(") = true
    ∧ before stmts_ServeHTTP (pre "call turbotunnelMode(") (· == "case default:") = true
    ∧ count stmts_ServeHTTP (pre "case ") = 2
    ∧ sig_turbotunnelMode = [("conn", "net.Conn"), ("addr", "net.Addr"), ("pconn", "*turbotunnel.QueuePacketConn"), ("", "error")]
    ∧ count stmts_ServeHTTP (pre "call clientIDAddrMap.") = 0 := by
  simp only [skel_eval]
  decide +kernel

/-- `turbotunnelMode` — model event `carrier id ip`: the ClientID is read from the carrier first (an error
returns before anything is stored); then the one access to the map, `Set(clientID, addr)`, at the top level,
before the goroutines start and hence before any packet of this carrier is queued. -/
theorem turbotunnel_set_listing :
    stmts_turbotunnelMode.head? = some "call io.ReadFull(conn, clientID[:])"
    ∧ count stmts_turbotunnelMode (pre "call io.ReadFull(") = 1
    ∧ blockOf stmts_turbotunnelMode (· == "if err != nil{") = some ["return fmt.Errorf(\"reading ClientID: %v\", err)"]
    ∧ before stmts_turbotunnelMode (pre "call io.ReadFull(") (· == "if err != nil{") = true
    ∧ before stmts_turbotunnelMode (· == "if err != nil{") (pre "call clientIDAddrMap.") = true
    ∧ count stmts_turbotunnelMode (pre "call clientIDAddrMap.") = 1
    ∧ has stmts_turbotunnelMode "call clientIDAddrMap.Set(clientID, addr)" = true
    ∧ (topLevel stmts_turbotunnelMode).contains "call clientIDAddrMap.Set(clientID, addr)" = true
    ∧ count stmts_turbotunnelMode (pre "assign addr") = 0
    ∧ count stmts_turbotunnelMode (pre "assign clientID") = 0
    ∧ count stmts_turbotunnelMode (pre "assign conn") = 0
    ∧ before stmts_turbotunnelMode (pre "call clientIDAddrMap.") (· == "go{") = true
    ∧ before stmts_turbotunnelMode (pre "call clientIDAddrMap.") (pre "call pconn.QueueIncoming(") = true
    ∧ count stmts_turbotunnelMode (pre "call pconn.QueueIncoming(") = 1
    ∧ has stmts_turbotunnelMode "call pconn.QueueIncoming(p, clientID)" = true
    ∧ allInside stmts_turbotunnelMode (pre "call pconn.QueueIncoming(") (· == "go{") = true := by
  simp only [skel_eval]
  decide +kernel

end Snowflake.Tie.ServerLib
