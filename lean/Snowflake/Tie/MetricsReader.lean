import Snowflake.Generated.MetricsReader
import Snowflake.Model.Metrics
import Snowflake.Base.Skel
import Snowflake.Tie.SkelEval
/-!
Tie obligations for C19, journal reader: `ClusterCounter.Count` reads the journal through a scanner
with an explicit line limit and returns the scanner's error (the shape of `countChecked`).  Kept
apart from `Tie/Metrics.lean` so that a reader without these facts breaks only these obligations.
-/
namespace Snowflake.Tie.MetricsReader
open Snowflake.Metrics

theorem readerLimit_tie : Gen.MetricsReader.maxLineSize = (readerLimit : Int) := rfl

def afterBlock (sk : List String) (p : String → Bool) : List String :=
  match sk.findIdx? p with
  | some i => (sk.drop (i + 1)).drop ((Skel.blockFrom (sk.drop (i + 1)) 0).length + 1)
  | none => []

/-- `ClusterCounter.Count` (repaired shape, `countChecked`): the scanner gets its explicit limit before the
loop; directly after the loop its error is examined and returned — only then is the merged sketch counted. -/
theorem reader_scanner_tie :
    Skel.before Gen.MetricsReader.skel_readerCount (Skel.pre "call inputScanner.Buffer(nil, maxLineSize)") (Skel.pre "for{") = true
    ∧ Skel.count Gen.MetricsReader.skel_readerCount (Skel.pre "call inputScanner.Buffer(") = 1
    ∧ (Skel.blockOf Gen.MetricsReader.skel_readerCount (Skel.pre "for{")).map
        (fun b => b.head? == some "call inputScanner.Scan()" && !b.any (Skel.pre "call inputScanner.Err(")) = some true
    ∧ (afterBlock Gen.MetricsReader.skel_readerCount (Skel.pre "for{")).take 5
        = ["call inputScanner.Err()", "if err != nil{", "return", "}", "call counter.Count()"]
    ∧ Skel.count Gen.MetricsReader.skel_readerCount (Skel.pre "call counter.Merge(") = 1 := by
  simp only [skel_eval]
  decide +kernel

end Snowflake.Tie.MetricsReader
