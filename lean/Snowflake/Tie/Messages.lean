import Snowflake.Generated.Messages
import Snowflake.Model.Messages
import Snowflake.Props.C12
import Snowflake.Tie.SkelEval
/-!
Tie obligations for C12: constants, struct layouts, inline status strings, the NAT switches and the
validation conditions regenerated from `common/messages`, `common/bridgefingerprint` and
`common/nat`, against the model `Snowflake.Messages`.  Go strings are byte lists on the generated
side and `List Char` in the model; `Utf8.encode` relates them.
-/
namespace Snowflake.Tie.Messages
open Snowflake Snowflake.Json Snowflake.Messages

theorem version_tie : Gen.Messages.version = Utf8.encode version := by decide
theorem proxyUnknown_tie : Gen.Messages.ProxyUnknown = Utf8.encode proxyUnknown := by decide
theorem clientVersion_tie : Gen.Messages.ClientVersion = Utf8.encode clientVersion := by decide
theorem defaultBridgeFingerprint_tie :
    Gen.Messages.defaultBridgeFingerprint = Utf8.encode defaultBridgeFingerprint := by decide +kernel
theorem natNames_tie :
    Gen.Messages.NATUnknown = Utf8.encode natUnknown ∧ Gen.Messages.NATRestricted = Utf8.encode natRestricted ∧
    Gen.Messages.NATUnrestricted = Utf8.encode natUnrestricted := by decide +kernel
theorem knownProxyTypes_tie : Gen.Messages.KnownProxyTypes = knownProxyTypes.map Utf8.encode := by decide +kernel

/-- The broker's failure texts are legal failure reasons of a poll response, so
`C12.proxy_poll_resp_failure_rt` applies to them. -/
theorem failure_texts_tie :
    ∀ t ∈ [Gen.Messages.StrTimedOut, Gen.Messages.StrNoProxies],
      t ≠ [] ∧ t ≠ Utf8.encode statusClientMatch ∧ t ≠ Utf8.encode statusNoMatch := by decide +kernel

theorem defaultBridgeFingerprint_ok : fingerprintOk defaultBridgeFingerprint = true := C12.fingerprintOk_default

theorem status_literals_tie :
    Gen.Messages.litsEncodePollResponseWithRelayURL = [String.ofList statusClientMatch] ∧
    Gen.Messages.litsEncodePollResponse = ["", String.ofList statusNoMatch] ∧
    Gen.Messages.litsEncodeAnswerResponse = [String.ofList statusSuccess, String.ofList statusClientGone] ∧
    Gen.Messages.litsEncodeProxyPollRequest = [""] := by decide +kernel

def goType : FVal → String
  | .str _ => "string"
  | .int _ => "int"
  | .optStr _ => "*string"

/-- (JSON name, Go type) of every field the decoder binds, in declaration order -/
def decSchema (init : Struct) : List (Text × String) := init.map (fun f => (f.1, goType f.2))
def genDecSchema (fs : List (String × String × String × Bool)) : List (Text × String) :=
  fs.map (fun f => (f.2.2.1.toList, f.2.1))

theorem decoder_structs_tie :
    decSchema pollReqInit = genDecSchema Gen.Messages.fieldsProxyPollRequest ∧
    decSchema pollRespInit = genDecSchema Gen.Messages.fieldsProxyPollResponse ∧
    decSchema answerReqInit = genDecSchema Gen.Messages.fieldsProxyAnswerRequest ∧
    decSchema answerRespInit = genDecSchema Gen.Messages.fieldsProxyAnswerResponse ∧
    decSchema clientReqInit = genDecSchema Gen.Messages.fieldsClientPollRequest ∧
    decSchema clientRespInit = genDecSchema Gen.Messages.fieldsClientPollResponse := by decide +kernel

/-- The zero values are Go's: `""`, `0`, `nil`. -/
theorem decoder_zero_values :
    (pollReqInit ++ pollRespInit ++ answerReqInit ++ answerRespInit ++ clientReqInit ++ clientRespInit).all
      (fun f => f.2 = .str [] || f.2 = .int 0 || f.2 = .optStr none) = true := by decide +kernel

/-- (JSON name, omitempty) of the members an encoder writes, in order -/
def encSchema (fs : List MField) : List (Text × Bool) := fs.map (fun f => (f.name, f.omitEmpty))
def genEncSchema (fs : List (String × String × String × Bool)) : List (Text × Bool) :=
  fs.map (fun f => (f.2.2.1.toList, f.2.2.2))

/-- drop the (symbolic) field values, then evaluate -/
macro "enc_schema" : tactic =>
  `(tactic| (simp only [encSchema, List.map_cons, List.map_nil]; decide +kernel))

/-- Every encoder of the model marshals the fields of the source struct (the field *values* are the encoder's
arguments). -/
theorem encoder_structs_tie :
    (∀ sid ty nat clients pat, ∃ fs, encodeProxyPollRequestWithRelayPrefix sid ty nat clients pat = marshalObj fs ∧
      encSchema fs = genEncSchema Gen.Messages.fieldsProxyPollRequest) ∧
    (∀ offer success nat url reason, ∃ fs, encodePollResponseWithRelayURL offer success nat url reason = marshalObj fs ∧
      encSchema fs = genEncSchema Gen.Messages.fieldsProxyPollResponse) ∧
    (∀ answer sid, ∃ fs, encodeAnswerRequest answer sid = marshalObj fs ∧
      encSchema fs = genEncSchema Gen.Messages.fieldsProxyAnswerRequest) ∧
    (∀ success, ∃ fs, encodeAnswerResponse success = marshalObj fs ∧
      encSchema fs = genEncSchema Gen.Messages.fieldsProxyAnswerResponse) ∧
    (∀ offer nat fp, ∃ fs, encodeClientPollRequest offer nat fp = clientVersion ++ '\n' :: marshalObj fs ∧
      encSchema fs = genEncSchema Gen.Messages.fieldsClientPollRequest) ∧
    (∀ answer error, ∃ fs, encodeClientPollResponse answer error = marshalObj fs ∧
      encSchema fs = genEncSchema Gen.Messages.fieldsClientPollResponse) := by
  refine ⟨fun _ _ _ _ _ => ⟨_, rfl, by enc_schema⟩, ?_, fun _ _ => ⟨_, rfl, by enc_schema⟩, ?_,
    fun _ _ _ => ⟨_, rfl, by enc_schema⟩, fun _ _ => ⟨_, rfl, by enc_schema⟩⟩
  · intro offer success nat url reason
    cases success
    · exact ⟨_, rfl, by enc_schema⟩
    · exact ⟨_, rfl, by enc_schema⟩
  · intro success
    cases success
    · exact ⟨_, rfl, by enc_schema⟩
    · exact ⟨_, rfl, by enc_schema⟩

/-- Both request decoders switch on `message.NAT` with the arms of the model's `natSwitch`: the
empty string is replaced by `nat.NATUnknown`, the three names are kept (empty bodies), everything
else leaves through the `default` arm, which returns (an error). -/
theorem nat_switch_tie :
    ∀ sw ∈ [Gen.Messages.switchDecodeProxyPollRequest, Gen.Messages.switchDecodeClientPollRequest],
      sw.take 5 = [("switch", "message.NAT"), ("=", "message.NAT = nat.NATUnknown"), ("nat.NATUnknown", ""),
        ("nat.NATRestricted", ""), ("nat.NATUnrestricted", "")] ∧
      (sw.drop 5).length = 1 ∧
      (sw.drop 5).all (fun c => c.1 == "default" && (c.2.endsWith "return" || c.2.startsWith "return nil, ")) = true := by
  simp only [skel_eval]
  decide +kernel

theorem natSwitch_spec (nat : Text) :
    natSwitch nat = if nat = [] then some natUnknown
      else if nat = natUnknown ∨ nat = natRestricted ∨ nat = natUnrestricted then some nat else none := by
  rw [C12.natSwitch_eq]
  unfold C12.NatValid C12.normNat
  by_cases h0 : nat = []
  · simp only [h0, true_or, if_true]
  · simp only [h0, false_or, if_false]

theorem beq_encode (s k : Text) : (Utf8.encode s == Utf8.encode k) = decide (s = k) := by
  by_cases h : s = k
  · subst h; simp
  · have : Utf8.encode s ≠ Utf8.encode k := fun e =>
      h (Function.LeftInverse.injective Utf8.decodeLossy_encode e)
    simp [h, this]

theorem bne_encode (s k : Text) : (Utf8.encode s != Utf8.encode k) = decide (s ≠ k) := by
  simp only [bne, beq_encode]
  by_cases h : s = k <;> simp [h]

theorem encode_nil : (([] : List UInt8)) = Utf8.encode [] := rfl

/-- `n != 20 && n != 32` of `FingerprintFromBytes` is the model's length test. -/
theorem fingerprintLenBad_tie (n : Nat) : Gen.Messages.fingerprintLenBad n = fingerprintLenBad n := rfl

/-- `majorVersion != "1"` (both request decoders) -/
theorem versionBad_tie (major : Text) :
    Gen.Messages.pollVersionBad (Utf8.encode major) = decide (major ≠ majorOne) ∧
    Gen.Messages.answerVersionBad (Utf8.encode major) = decide (major ≠ majorOne) := by
  unfold Gen.Messages.pollVersionBad Gen.Messages.answerVersionBad
  rw [show ([49] : List UInt8) = Utf8.encode majorOne by decide]
  exact ⟨bne_encode _ _, bne_encode _ _⟩

/-- `message.Sid == ""`, `message.Sid == "" || message.Answer == ""`, `message.Offer == ""` (twice),
`message.Fingerprint == ""`, `message.Status == ""` (twice), `message.Error == "" && message.Answer == ""` -/
theorem emptiness_tie (a b : Text) :
    Gen.Messages.pollSidMissing (Utf8.encode a) = decide (a = []) ∧
    Gen.Messages.answerMissing (Utf8.encode a) (Utf8.encode b) = (decide (a = []) || decide (b = [])) ∧
    Gen.Messages.pollRespOfferMissing (Utf8.encode a) = decide (a = []) ∧
    Gen.Messages.clientReqOfferMissing (Utf8.encode a) = decide (a = []) ∧
    Gen.Messages.clientReqFingerprintEmpty (Utf8.encode a) = decide (a = []) ∧
    Gen.Messages.pollRespStatusEmpty (Utf8.encode a) = decide (a = []) ∧
    Gen.Messages.answerRespStatusEmpty (Utf8.encode a) = decide (a = []) ∧
    Gen.Messages.clientRespEmpty (Utf8.encode a) (Utf8.encode b) = (decide (a = []) && decide (b = [])) := by
  unfold Gen.Messages.pollSidMissing Gen.Messages.answerMissing Gen.Messages.pollRespOfferMissing
    Gen.Messages.clientReqOfferMissing Gen.Messages.clientReqFingerprintEmpty Gen.Messages.pollRespStatusEmpty
    Gen.Messages.answerRespStatusEmpty Gen.Messages.clientRespEmpty
  refine ⟨?_, ?_, ?_, ?_, ?_, ?_, ?_, ?_⟩ <;> simp only [encode_nil, beq_encode]

/-- `message.Status == "client match"`, `message.Status != "no match"`, `message.Status == "success"` -/
theorem status_conditions_tie (status : Text) :
    Gen.Messages.pollRespIsMatch (Utf8.encode status) = decide (status = statusClientMatch) ∧
    Gen.Messages.pollRespIsFailure (Utf8.encode status) = decide (status ≠ statusNoMatch) ∧
    Gen.Messages.answerRespIsSuccess (Utf8.encode status) = decide (status = statusSuccess) := by
  unfold Gen.Messages.pollRespIsMatch Gen.Messages.pollRespIsFailure Gen.Messages.answerRespIsSuccess
  rw [show ([99, 108, 105, 101, 110, 116, 32, 109, 97, 116, 99, 104] : List UInt8) = Utf8.encode statusClientMatch by decide +kernel,
    show ([110, 111, 32, 109, 97, 116, 99, 104] : List UInt8) = Utf8.encode statusNoMatch by decide +kernel,
    show ([115, 117, 99, 99, 101, 115, 115] : List UInt8) = Utf8.encode statusSuccess by decide +kernel]
  exact ⟨beq_encode _ _, bne_encode _ _, beq_encode _ _⟩

end Snowflake.Tie.Messages
