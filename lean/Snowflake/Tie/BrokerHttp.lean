import Snowflake.Generated.BrokerHttp
import Snowflake.Model.BrokerHttp
import Snowflake.Tie.SkelEval
/-!
Tie obligations for C14: the skeletons (status codes, early returns, the legacy `switch`, absence of
`panic`) regenerated from `/repo/broker/http.go` and `/repo/broker/amp.go` are the ones the model
`Snowflake.Model.BrokerHttp` was written against; the string constants of the status map and the
legacy/versioned distinction are the source's.
-/
namespace Snowflake.Tie.BrokerHttp
open Snowflake.Gen Snowflake.BrokerHttp

/-- CORS headers, OPTIONS short-circuit before the handler (`serve`). -/
def expected_ServeHTTP : List String := [
  "if \"OPTIONS\" == r.Method{",
  "return",
  "}",
  "call sh.handle(sh.IPC, w, r)"
]

theorem skel_ServeHTTP_tie : BrokerHttp.skel_ServeHTTP = expected_ServeHTTP := rfl

/-- same for /metrics. -/
def expected_MetricsServeHTTP : List String := [
  "if \"OPTIONS\" == r.Method{",
  "return",
  "}",
  "call mh.handle(mh.logFilename, w, r)"
]

theorem skel_MetricsServeHTTP_tie : BrokerHttp.skel_MetricsServeHTTP = expected_MetricsServeHTTP := rfl

/-- body cap → 400; ErrBadRequest → 400; ErrInternal / other → 500; else 200 with the response (`proxyShell`). -/
def expected_proxyPolls : List String := [
  "call http.MaxBytesReader(w, r.Body, readLimit)",
  "if err != nil{",
  "call w.WriteHeader(http.StatusBadRequest)",
  "return",
  "}",
  "call i.ProxyPolls(arg, &response)",
  "switch{",
  "case errors.Is(err, messages.ErrBadRequest):",
  "call w.WriteHeader(http.StatusBadRequest)",
  "return",
  "case errors.Is(err, messages.ErrInternal):",
  "fallthrough",
  "case default:",
  "call w.WriteHeader(http.StatusInternalServerError)",
  "return",
  "}",
  "call w.Write(response)"
]

theorem skel_proxyPolls_tie : BrokerHttp.skel_proxyPolls = expected_proxyPolls := rfl

/-- body cap → 400; legacy test `body[0] == '{'` and re-encoding (failure → 500); core error → 500; legacy: decode failure → 500, status map ""→200 answer, no proxies→503, timed out→504, anything else→400 (no panic) (`clientShell`, `legacyMap`). -/
def expected_clientOffers : List String := [
  "call http.MaxBytesReader(w, r.Body, readLimit)",
  "if err != nil{",
  "call w.WriteHeader(http.StatusBadRequest)",
  "return",
  "}",
  "assign isLegacy := false",
  "if len(body) > 0 && body[0] == '{'{",
  "assign isLegacy = true",
  "call req.EncodeClientPollRequest()",
  "if err != nil{",
  "call w.WriteHeader(http.StatusInternalServerError)",
  "return",
  "}",
  "}",
  "call i.ClientOffers(arg, &response)",
  "if err != nil{",
  "call w.WriteHeader(http.StatusInternalServerError)",
  "return",
  "}",
  "if isLegacy{",
  "call messages.DecodeClientPollResponse(response)",
  "if err != nil{",
  "call w.WriteHeader(http.StatusInternalServerError)",
  "return",
  "}",
  "switch resp.Error{",
  "case \"\":",
  "assign response = []byte(resp.Answer)",
  "case messages.StrNoProxies:",
  "call w.WriteHeader(http.StatusServiceUnavailable)",
  "return",
  "case messages.StrTimedOut:",
  "call w.WriteHeader(http.StatusGatewayTimeout)",
  "return",
  "case default:",
  "call w.WriteHeader(http.StatusBadRequest)",
  "return",
  "}",
  "}",
  "call w.Write(response)"
]

theorem skel_clientOffers_tie : BrokerHttp.skel_clientOffers = expected_clientOffers := rfl

/-- same shape as proxyPolls (`proxyShell`). -/
def expected_proxyAnswers : List String := [
  "call http.MaxBytesReader(w, r.Body, readLimit)",
  "if err != nil{",
  "call w.WriteHeader(http.StatusBadRequest)",
  "return",
  "}",
  "call i.ProxyAnswers(arg, &response)",
  "switch{",
  "case errors.Is(err, messages.ErrBadRequest):",
  "call w.WriteHeader(http.StatusBadRequest)",
  "return",
  "case errors.Is(err, messages.ErrInternal):",
  "fallthrough",
  "case default:",
  "call w.WriteHeader(http.StatusInternalServerError)",
  "return",
  "}",
  "call w.Write(response)"
]

theorem skel_proxyAnswers_tie : BrokerHttp.skel_proxyAnswers = expected_proxyAnswers := rfl

/-- prefix mismatch → 500; undecodable path → armored error document; core error → 500; else 200 + armor (`ampShell`). -/
def expected_ampClientOffers : List String := [
  "if path == r.URL.Path{",
  "call w.WriteHeader(http.StatusInternalServerError)",
  "return",
  "}",
  "call amp.DecodePath(path)",
  "if err == nil{",
  "call i.ClientOffers(arg, &response)",
  "}",
  "if err != nil{",
  "call w.WriteHeader(http.StatusInternalServerError)",
  "return",
  "}",
  "call w.WriteHeader(http.StatusOK)",
  "call amp.NewArmorEncoder(w)",
  "if err != nil{",
  "return",
  "}",
  "defer enc.Close()",
  "call enc.Write(response)"
]

theorem skel_ampClientOffers_tie : BrokerHttp.skel_ampClientOffers = expected_ampClientOffers := rfl

/-- core error → 500 else 200 body (`debugShell`). -/
def expected_debugHandler : List String := [
  "call i.Debug(new(interface{}), &response)",
  "if err != nil{",
  "call w.WriteHeader(http.StatusInternalServerError)",
  "return",
  "}",
  "call w.Write([]byte(response))"
]

theorem skel_debugHandler_tie : BrokerHttp.skel_debugHandler = expected_debugHandler := rfl

/-- no file / unreadable → 404 (`metricsShell`). -/
def expected_metricsHandler : List String := [
  "if metricsFilename == \"\"{",
  "call http.NotFound(w, r)",
  "return",
  "}",
  "if err != nil{",
  "call http.NotFound(w, r)",
  "return",
  "}"
]

theorem skel_metricsHandler_tie : BrokerHttp.skel_metricsHandler = expected_metricsHandler := rfl

theorem no_panic_in_handlers :
    ([BrokerHttp.skel_ServeHTTP, BrokerHttp.skel_MetricsServeHTTP, BrokerHttp.skel_proxyPolls, BrokerHttp.skel_clientOffers,
      BrokerHttp.skel_proxyAnswers, BrokerHttp.skel_ampClientOffers, BrokerHttp.skel_debugHandler,
      BrokerHttp.skel_metricsHandler].all (fun sk => !sk.any (fun l => l.startsWith "call panic("))) = true := by
  simp only [skel_eval]
  decide +kernel

theorem status_strings_tie : BrokerHttp.StrNoProxies = strNoProxies ∧ BrokerHttp.StrTimedOut = strTimedOut := by
  decide +kernel

/-- The shim's re-encoding of a legacy request is never itself taken for a legacy request (hypothesis `hver`
of `legacy_equiv`). -/
theorem versioned_is_not_legacy : isLegacy BrokerHttp.ClientVersion = false := by decide +kernel

theorem readLimit_tie : BrokerHttp.readLimit = 100000 := rfl

end Snowflake.Tie.BrokerHttp
