import Snowflake.Generated.Util
import Snowflake.Model.Util
import Snowflake.Base.SkelFlow
import Snowflake.Tie.SkelEval
/-!
Tie obligation for the last clause of C08 ("applied before the answer leaves the process"), proxy side:
`(*SignalingServer).sendAnswer` (proxy/lib/snowflake.go) still applies `util.StripLocalAddresses`, under exactly
the negated `keepLocalAddresses` flag, to the one description it serialises into the request — the
model's `Util.leaves`, about which `Props/C08.lean` proves `sent_description_spec`.

The statement list is regenerated with every call, composite literal, assignment, condition and returned
expression, with the identifiers of each statement (`…_ids`) and the signature.  The obligations are data-flow
facts: *all* statements that mention the description variable, the flag, the serialised string, the encoded
request and the transport are listed, so any additional use — a copy of the original kept aside, a second
path to the transport, a further condition on the reassignment — changes one of the lists.

One module per sender, so that a change to one function does not take the other ties of C08 down with it.
-/
namespace Snowflake.Tie.StripAppliedProxy
open Snowflake.Skel

open Snowflake.Gen.Util
private abbrev S := stmts_sendAnswer
private abbrev Sw := linesWith stmts_sendAnswer stmts_sendAnswer_ids

/-- **`sendAnswer` sends `leaves keepLocalAddresses pc.LocalDescription()`** (1/2).  `ld` is the peer
connection's local description (the only use of `pc`), reassigned to the stripped description under exactly
`if !s.keepLocalAddresses` (top level, no `else`, the only mention of the flag), and passed only to
`util.SerializeSessionDescription`. -/
theorem sendAnswer_strips_under_flag :
    stmts_sendAnswer_ids.length = S.length
    ∧ stmts_sendAnswer_sig = "func (s *SignalingServer) sendAnswer(sid string, pc *webrtc.PeerConnection) error"
    ∧ Sw "keepLocalAddresses" = ["if !s.keepLocalAddresses{"]
    ∧ stacksOf S (· == "if !s.keepLocalAddresses{") = [[]]
    ∧ blockOf S (· == "if !s.keepLocalAddresses{") = some [
        "lit webrtc.SessionDescription{ Type: ld.Type, SDP: util.StripLocalAddresses(ld.SDP), }",
        "call util.StripLocalAddresses(ld.SDP)",
        "assign ld = &webrtc.SessionDescription{ Type: ld.Type, SDP: util.StripLocalAddresses(ld.SDP), }"]
    ∧ closer S (· == "if !s.keepLocalAddresses{") = some "}"
    ∧ Sw "pc" = ["call pc.LocalDescription()", "assign ld := pc.LocalDescription()"]
    ∧ Sw "LocalDescription" = Sw "pc"
    ∧ Sw "ld" = [
        "assign ld := pc.LocalDescription()",
        "lit webrtc.SessionDescription{ Type: ld.Type, SDP: util.StripLocalAddresses(ld.SDP), }",
        "call util.StripLocalAddresses(ld.SDP)",
        "assign ld = &webrtc.SessionDescription{ Type: ld.Type, SDP: util.StripLocalAddresses(ld.SDP), }",
        "call util.SerializeSessionDescription(ld)",
        "assign answer, err := util.SerializeSessionDescription(ld)"]
    ∧ Sw "StripLocalAddresses" = [
        "lit webrtc.SessionDescription{ Type: ld.Type, SDP: util.StripLocalAddresses(ld.SDP), }",
        "call util.StripLocalAddresses(ld.SDP)",
        "assign ld = &webrtc.SessionDescription{ Type: ld.Type, SDP: util.StripLocalAddresses(ld.SDP), }"] := by
  decide +kernel

/-- **`sendAnswer` sends `leaves keepLocalAddresses pc.LocalDescription()`** (2/2).  `answer` only goes into
`messages.EncodeAnswerRequest(answer, sid)`, whose result `body` only goes into the one `s.Post`; all at the
top level, in this order, around the guard. -/
theorem sendAnswer_sends_serialised :
    Sw "SerializeSessionDescription" = [
        "call util.SerializeSessionDescription(ld)",
        "assign answer, err := util.SerializeSessionDescription(ld)"]
    ∧ Sw "answer" = [
        "assign answer, err := util.SerializeSessionDescription(ld)",
        "call messages.EncodeAnswerRequest(answer, sid)",
        "assign body, err := messages.EncodeAnswerRequest(answer, sid)"]
    ∧ Sw "body" = [
        "assign body, err := messages.EncodeAnswerRequest(answer, sid)",
        "call s.Post(brokerPath.String(), bytes.NewBuffer(body))",
        "call bytes.NewBuffer(body)",
        "assign resp, err := s.Post(brokerPath.String(), bytes.NewBuffer(body))"]
    ∧ Sw "Post" = [
        "call s.Post(brokerPath.String(), bytes.NewBuffer(body))",
        "assign resp, err := s.Post(brokerPath.String(), bytes.NewBuffer(body))"]
    ∧ Sw "transport" = [] ∧ Sw "RoundTrip" = [] ∧ Sw "http" = []
    ∧ stacksOf S (· == "call pc.LocalDescription()") = [[]]
    ∧ stacksOf S (· == "call util.SerializeSessionDescription(ld)") = [[]]
    ∧ stacksOf S (· == "call messages.EncodeAnswerRequest(answer, sid)") = [[]]
    ∧ stacksOf S (· == "call s.Post(brokerPath.String(), bytes.NewBuffer(body))") = [[]]
    ∧ before S (· == "call pc.LocalDescription()") (· == "if !s.keepLocalAddresses{") = true
    ∧ before S (· == "if !s.keepLocalAddresses{") (· == "call util.SerializeSessionDescription(ld)") = true
    ∧ before S (· == "call util.SerializeSessionDescription(ld)") (· == "call messages.EncodeAnswerRequest(answer, sid)") = true
    ∧ before S (· == "call messages.EncodeAnswerRequest(answer, sid)") (· == "call s.Post(brokerPath.String(), bytes.NewBuffer(body))") = true
    ∧ has S detached = false := by
  simp only [skel_eval]
  decide +kernel


end Snowflake.Tie.StripAppliedProxy
