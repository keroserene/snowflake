import Snowflake.Base.SkelFlow
import Snowflake.Base.Utf8
import Snowflake.Tie.SkelAttr
/-
Forms of the string tests of the skeleton queries that the kernel evaluates cheaply.  Every function on
`String` goes through the UTF-8 bytes, which the kernel reaches slowly.  `String.startsWith` asks for both
sizes first, so it walks over the whole line even when the first byte differs, and `String.toList` (behind
`Skel.contains`) is slower still.  The forms below look only at the bytes they need.

How the ties under `Tie/` are proved, by the kind of statement:
* an equation between a regenerated constant and a literal or a constant of the model, nothing to evaluate on
  either side: `rfl` (`⟨rfl, …⟩`); the literals are compared as they stand, no string is decoded;
* a query evaluated on a regenerated value: `decide +kernel` (plain `decide` for arithmetic on small numbers);
* a query that tests prefixes, suffixes or substrings of lines: `simp only [skel_eval]` first (the tie's own
  predicates give their `eq_unfold` that attribute), then `decide +kernel`;
* a translated function or condition equals the model's on every input: `rfl` where both unfold to the same
  term, otherwise an ordinary proof (`Util.isLocal_tie`, `Encap.dataPrefix_tie`, `Messages.emptiness_tie`); a
  fact it needs about every byte is evaluated on the 256 bytes (`forall_u8`, `Tie/Byte.lean`).
-/
namespace Snowflake.Skel

def bytes (s : String) : List UInt8 := s.toByteArray.data.toList

theorem bytes_append (s t : String) : bytes (s ++ t) = bytes s ++ bytes t := by
  simp [bytes, String.toByteArray_append]

theorem startsWith_eq_bytes (s pat : String) : s.startsWith pat = (bytes pat).isPrefixOf (bytes s) := by
  rw [Bool.eq_iff_iff, String.startsWith_string_iff, List.isPrefixOf_iff_prefix]
  constructor
  · rintro ⟨t, ht⟩
    refine ⟨bytes (String.ofList t), ?_⟩
    rw [← bytes_append, ← String.ofList_toList (s := s), ← ht, String.ofList_append, String.ofList_toList]
  · rintro ⟨r, hr⟩
    apply List.isPrefix_of_utf8Encode_append_eq_utf8Encode ⟨⟨r⟩⟩
    apply ByteArray.ext
    apply Array.toList_inj.1
    simpa [bytes] using hr

theorem encodeChar_eq (c : Char) : Utf8.encodeChar c = String.utf8EncodeChar c := by
  have hv := Utf8.char_range c
  simp only [Utf8.encodeChar, String.utf8EncodeChar, Char.toNat] at hv ⊢
  by_cases h1 : c.val.toNat < 128
  · rw [if_pos h1, if_pos (by omega)]
  · by_cases h2 : c.val.toNat < 2048
    · rw [if_neg h1, if_pos h2, if_neg (by omega), if_pos (by omega),
        show 192 + c.val.toNat / 64 = c.val.toNat / 64 % 32 + 192 by omega, Nat.add_comm 128]
    · by_cases h3 : c.val.toNat < 65536
      · rw [if_neg h1, if_neg h2, if_pos h3, if_neg (by omega), if_neg (by omega), if_pos (by omega),
          show 224 + c.val.toNat / 4096 = c.val.toNat / 4096 % 16 + 224 by omega, Nat.add_comm 128, Nat.add_comm 128]
      · rw [if_neg h1, if_neg h2, if_neg h3, if_neg (by omega), if_neg (by omega), if_neg (by omega),
          show 240 + c.val.toNat / 262144 = c.val.toNat / 262144 % 8 + 240 by omega, Nat.add_comm 128,
          Nat.add_comm 128, Nat.add_comm 128]

/-- `s.toList`, by the structural decoder of `Base/Utf8.lean` -/
def chars (s : String) : List Char := Utf8.decodeLossy (bytes s)

theorem toList_eq_chars (s : String) : s.toList = chars s := by
  have : bytes s = Utf8.encode s.toList := by
    rw [bytes, ← String.utf8Encode_toList, List.utf8Encode, List.toList_data_toByteArray]
    congr 1
    exact (funext encodeChar_eq).symm
  rw [chars, this, Utf8.decodeLossy_encode]

theorem endsWith_eq_chars (s pat : String) : s.endsWith pat = (chars pat).isSuffixOf (chars s) := by
  have : s.endsWith pat ↔ pat.toList <:+ s.toList := by simp [← String.endsWith_toSlice]
  rw [Bool.eq_iff_iff, this, List.isSuffixOf_iff_suffix, toList_eq_chars, toList_eq_chars]

attribute [skel_eval] startsWith_eq_bytes endsWith_eq_chars toList_eq_chars pre.eq_unfold contains.eq_unfold startAll.eq_unfold
  detached.eq_unfold

end Snowflake.Skel
