import Lean.Meta.Tactic.Simp.RegisterCommand
/-- see `Tie/SkelEval.lean` -/
register_simp_attr skel_eval
