import Snowflake.Generated.Amp
import Snowflake.Model.Amp
import Snowflake.Base.Skel
import Snowflake.Tie.SkelEval
import Snowflake.Tie.Byte
/-!
Tie obligations for C10: the constants and `isASCIIWhitespace` regenerated from
`/repo/common/amp/armor_encoder.go` / `armor_decoder.go` equal the model's, and the statement order of
encoder and decoder (regenerated skeletons) is the one the model was written against.
-/
namespace Snowflake.Tie.Amp
open Snowflake.Amp

theorem boilerplateStart_tie : Gen.Amp.boilerplateStart = boilerplateStart := rfl
theorem boilerplateEnd_tie : Gen.Amp.boilerplateEnd = boilerplateEnd := rfl
theorem elementSizeLimit_tie : Gen.Amp.elementSizeLimit = (elementSizeLimit : Int) := rfl
theorem bytesPerChunk_tie : Gen.Amp.bytesPerChunk = (bytesPerChunk : Int) := rfl
theorem chunksPerElement_tie : Gen.Amp.chunksPerElement = (chunksPerElement : Int) := rfl

/-- the formula of the source -/
theorem chunksPerElement_formula : chunksPerElement = (elementSizeLimit - 1) / (bytesPerChunk + 1) := by decide

/-- The model's `isASCIIWhitespace` is the tokenizer's white-space class, so the splitter and `x/net/html`
agree on what separates words. -/
theorem isASCIIWhitespace_tie (b : UInt8) : Gen.Amp.isASCIIWhitespace b = isASCIIWhitespace b :=
  forall_u8 b (by decide +kernel)

open Snowflake.Skel in
/-- `NewArmorEncoder`: header first, then the version byte `'0'` through the element encoder, then the
base64 encoder (standard alphabet) on top of the element encoder. -/
theorem newArmorEncoder_order :
    before Gen.Amp.skel_NewArmorEncoder (pre "call w.Write([]byte(boilerplateStart))") (pre "call element.Write([]byte{'0'})") = true
    ∧ before Gen.Amp.skel_NewArmorEncoder (pre "call element.Write([]byte{'0'})") (pre "call base64.NewEncoder(base64.StdEncoding, element)") = true
    ∧ count Gen.Amp.skel_NewArmorEncoder (pre "call ") = 3 := by
  simp only [skel_eval]
  decide +kernel

open Snowflake.Skel in
/-- `armorEncoder.Write` only forwards to the base64 encoder; `Close` closes base64, then the element
encoder, then writes the trailer. -/
theorem armorEncoder_write_close_order :
    Gen.Amp.skel_armorEncoder_Write = ["call enc.base64.Write(p)", "return"]
    ∧ before Gen.Amp.skel_armorEncoder_Close (pre "call enc.base64.Close()") (pre "call enc.element.Close()") = true
    ∧ before Gen.Amp.skel_armorEncoder_Close (pre "call enc.element.Close()") (pre "call enc.w.Write([]byte(boilerplateEnd))") = true
    ∧ count Gen.Amp.skel_armorEncoder_Close (pre "call ") = 3 := by
  simp only [skel_eval]
  decide +kernel

open Snowflake.Skel in
/-- `elementEncoder.Write`: inside the loop, in this order, `<pre>\n` guarded by both counters being
zero, the data block, `\n` guarded by `chunkCounter >= bytesPerChunk`, `</pre>\n` guarded by
`elementCounter >= chunksPerElement`; `Close` has the three-way shape of the model. -/
theorem elementEncoder_order :
    (blockOf Gen.Amp.skel_elementEncoder_Write (pre "if enc.elementCounter == 0 && enc.chunkCounter == 0{")).map
        (fun b => b.head? == some "call enc.w.Write([]byte(\"<pre>\\n\"))") = some true
    ∧ before Gen.Amp.skel_elementEncoder_Write (pre "call enc.w.Write([]byte(\"<pre>\\n\"))") (pre "call enc.w.Write(p[:n])") = true
    ∧ before Gen.Amp.skel_elementEncoder_Write (pre "call enc.w.Write(p[:n])") (pre "if enc.chunkCounter >= bytesPerChunk{") = true
    ∧ (blockOf Gen.Amp.skel_elementEncoder_Write (pre "if enc.chunkCounter >= bytesPerChunk{")).map
        (fun b => b.head? == some "call enc.w.Write([]byte(\"\\n\"))") = some true
    ∧ before Gen.Amp.skel_elementEncoder_Write (pre "if enc.chunkCounter >= bytesPerChunk{") (pre "if enc.elementCounter >= chunksPerElement{") = true
    ∧ (blockOf Gen.Amp.skel_elementEncoder_Write (pre "if enc.elementCounter >= chunksPerElement{")).map
        (fun b => b.head? == some "call enc.w.Write([]byte(\"</pre>\\n\"))") = some true
    ∧ count Gen.Amp.skel_elementEncoder_Write (pre "call enc.w.Write(") = 4
    ∧ Gen.Amp.skel_elementEncoder_Close =
        ["if !(enc.elementCounter == 0 && enc.chunkCounter == 0){", "if enc.chunkCounter == 0{",
         "call enc.w.Write([]byte(\"</pre>\\n\"))", "}else{", "call enc.w.Write([]byte(\"\\n</pre>\\n\"))", "}", "}", "return"] := by
  simp only [skel_eval]
  decide +kernel

open Snowflake.Skel in
/-- `decodeToWriter`: the tokenizer's buffer is limited to `elementSizeLimit` before the loop; text is
written only under `if active`; a misplaced `pre` tag, or input that ends while active, returns an error. -/
theorem decodeToWriter_shape :
    before Gen.Amp.skel_decodeToWriter (pre "call tokenizer.SetMaxBuf(elementSizeLimit)") (pre "for{") = true
    ∧ count Gen.Amp.skel_decodeToWriter (pre "call tokenizer.SetMaxBuf(") = 1
    ∧ (blockOf Gen.Amp.skel_decodeToWriter (pre "if active{")).map
        (fun b => b.contains "call tokenizer.Text()" && b.contains "call scanner.Split(splitASCIIWhitespace)"
                  && b.contains "call w.Write(scanner.Bytes())") = some true
    ∧ count Gen.Amp.skel_decodeToWriter (pre "call w.Write(") = 1
    ∧ (blockOf Gen.Amp.skel_decodeToWriter (pre "if err == nil && active{")).map
        (fun b => b == ["call fmt.Errorf(\"missing </pre> tag\")", "return"]) = some true
    ∧ count Gen.Amp.skel_decodeToWriter (pre "if string(tn) == \"pre\"{") = 2
    ∧ before Gen.Amp.skel_decodeToWriter (pre "case html.StartTagToken:") (pre "if active{" ) = false
    ∧ before Gen.Amp.skel_decodeToWriter (pre "case html.StartTagToken:") (pre "case html.EndTagToken:") = true
    ∧ (blockOf (Gen.Amp.skel_decodeToWriter.drop ((idx Gen.Amp.skel_decodeToWriter (pre "case html.StartTagToken:")).getD 0)) (pre "if string(tn) == \"pre\"{")).map
        (fun b => b == ["if active{", "call fmt.Errorf(\"unexpected %s\", tokenizer.Token())", "return", "}"]) = some true
    ∧ (blockOf (Gen.Amp.skel_decodeToWriter.drop ((idx Gen.Amp.skel_decodeToWriter (pre "case html.EndTagToken:")).getD 0)) (pre "if string(tn) == \"pre\"{")).map
        (fun b => b == ["if !active{", "call fmt.Errorf(\"unexpected %s\", tokenizer.Token())", "return", "}"]) = some true := by
  simp only [skel_eval]
  decide +kernel

open Snowflake.Skel in
/-- `NewArmorDecoder`: `decodeToWriter` runs in its own goroutine and closes the pipe with its error;
one byte is read as the version; only for `'0'` a decoder for the *standard* alphabet is returned. -/
theorem newArmorDecoder_shape :
    (blockOf Gen.Amp.skel_NewArmorDecoder (pre "go{")).map
        (fun b => b == ["call decodeToWriter(pw, r)", "call pw.CloseWithError(err)"]) = some true
    ∧ before Gen.Amp.skel_NewArmorDecoder (pre "call pr.Read(version[:])") (pre "switch version[0]{") = true
    ∧ before Gen.Amp.skel_NewArmorDecoder (pre "case '0':") (pre "call base64.NewDecoder(base64.StdEncoding, pr)") = true
    ∧ before Gen.Amp.skel_NewArmorDecoder (pre "call base64.NewDecoder(base64.StdEncoding, pr)") (pre "case default:") = true
    ∧ count Gen.Amp.skel_NewArmorDecoder (pre "call base64.NewDecoder(") = 1 := by
  simp only [skel_eval]
  decide +kernel

end Snowflake.Tie.Amp
