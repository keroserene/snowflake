import Snowflake.Generated.SessionDesc
import Snowflake.Model.SessionDesc
import Snowflake.Tie.SkelEval
/-!
Tie obligations for C13: facts regenerated from `common/util/util.go`
`DeserializeSessionDescription` (outside the translated subset: it works on a map of interfaces)
that the model `Snowflake.SessionDesc.deserialize` depends on.
-/
namespace Snowflake.Tie.SessionDesc
open Snowflake.SessionDesc

/-- The function asserts the dynamic type of exactly the two members the model looks at. -/
theorem asserts_tie :
    Gen.SessionDesc.deserializeAsserts.map (fun a => (a.1, a.2.1))
      = [("parsed[\"type\"]", "string"), ("parsed[\"sdp\"]", "string")] := by decide

/-- Every type assertion of the function is the checked (comma-ok) form: the working tree is the
function modelled by `deserialize true`, the one `C13.deserialize_total` is about.  (On a tree with a
single-value assertion this obligation fails, and the harness exhibits the panicking input.) -/
theorem asserts_checked_tie : Gen.SessionDesc.deserializeAsserts.all (fun a => a.2.2) = true := by decide

/-- the Go constant the `switch` assigns for each model type -/
def goConst : SDPType → String
  | .offer => "webrtc.SDPTypeOffer"
  | .pranswer => "webrtc.SDPTypePranswer"
  | .answer => "webrtc.SDPTypeAnswer"
  | .rollback => "webrtc.SDPTypeRollback"
  | .other => ""

/-- The cases of the function's `switch` are the four names of the model's `typeOfName`, each assigning the
corresponding `webrtc.SDPType`; its `default` arm returns (the "Unknown SDP type" error). -/
theorem switch_tie :
    (Gen.SessionDesc.deserializeSwitch.filter (fun c => c.1 == "switch")).length = 1 ∧
    Gen.SessionDesc.deserializeSwitch.filter (fun c => c.1.startsWith "=")
      = [SDPType.offer, .pranswer, .answer, .rollback].map
          (fun t => ("=" ++ String.ofList t.name, "stype = " ++ goConst t)) ∧
    (Gen.SessionDesc.deserializeSwitch.filter (fun c => c.1 == "default")).all
      (fun c => c.2.startsWith "return nil, ") = true := by
  simp only [skel_eval]
  decide +kernel

theorem typeOfName_name : ∀ t : SDPType, t ≠ .other → typeOfName t.name = some t
  | .other, h => absurd rfl h
  | .offer, _ | .pranswer, _ | .answer, _ | .rollback, _ => by decide

end Snowflake.Tie.SessionDesc
