import Snowflake.Generated.ProxyLib
import Snowflake.Model.ProxySlots
import Snowflake.Base.SkelStack
import Snowflake.Tie.SkelEval
/-!
Tie obligations for C16: the load expression of `pollOffer` equals the model's, and semantic facts
about the skeletons regenerated from `proxy/lib/tokens.go` and `proxy/lib/snowflake.go` on which the
labels of `Model/ProxySlots.lean` (with `fixed = true`) rely — in particular that every release
site that can run for a session once its peer connection exists goes through the same per-session
`sync.Once` (F11 is a timing race that a differential run only hits by forcing the schedule).
-/
namespace Snowflake.Tie.ProxyLib
open Snowflake.Skel Snowflake.Gen.ProxyLib Snowflake.ProxySlots

def blk (sk : List String) (p : String → Bool) : List String := (blockOf sk p).getD []

/-- `numClients := int((tokens.count() / 8) * 8)` is the model's `loadNat`. -/
theorem load_tie (count : Nat) : pollOffer_numClients count = loadNat count := rfl

/-- `pollOffer` reads the counter once per poll, inside its loop (label `lPoll`). -/
theorem poll_reads_count :
    count skel_pollOffer (· == "call tokens.count()") = 1
    ∧ allInside skel_pollOffer (· == "call tokens.count()") (· == "for{") = true := by decide +kernel

/-- `tokens_t` as the labels `lStart`/`lAcquire`, `doRet` have it: atomic counter first, then the blocking
channel operation, which exists only for a non-zero capacity. -/
theorem tokens_shape :
    skel_newTokens = ["if capacity != 0{", "makechan cap=capacity", "}", "return"]
    ∧ skel_get = ["call atomic.AddInt64(&t.clients, 1)", "if t.capacity != 0{", "send t.ch", "}"]
    ∧ skel_ret = ["call atomic.AddInt64(&t.clients, -1)", "if t.capacity != 0{", "recv t.ch", "}"]
    ∧ skel_count = ["call atomic.LoadInt64(&t.clients)", "return"] :=
  ⟨rfl, rfl, rfl, rfl⟩

/-- The `-capacity` flag of the proxy binary (default 0 = unlimited) becomes `SnowflakeProxy.Capacity`,
which `Start` turns into the token pool before the poll loop: the model's parameter `N`. -/
theorem capacity_flag_reaches_tokens :
    has skel_main (· == "call flag.Uint(\"capacity\", 0, \"maximum concurrent clients\")") = true
    ∧ before skel_main (· == "call flag.Parse()") (pre "lit sf.SnowflakeProxy{ Capacity: uint(*capacity),") = true
    ∧ before skel_main (pre "lit sf.SnowflakeProxy{ Capacity: uint(*capacity),") (· == "call proxy.Start()") = true
    ∧ count skel_Start (· == "call newTokens(sf.Capacity)") = 1
    ∧ before skel_Start (· == "call newTokens(sf.Capacity)") (· == "call tokens.get()") = true
    ∧ noneInside skel_Start (· == "call newTokens(sf.Capacity)") (fun _ => true) = true := by
  simp only [skel_eval]
  decide +kernel

/-- The poll loop takes a slot (`tokens.get()`) exactly once before each `runSession`, in the same
arm of its `select`, and runs the session synchronously: one session at a time (`cur`). -/
theorem poll_loop_gets_then_runs :
    count skel_Start (· == "call tokens.get()") = 1
    ∧ count skel_Start (pre "call sf.runSession(") = 1
    ∧ before skel_Start (· == "call tokens.get()") (pre "call sf.runSession(") = true
    ∧ (stacksOf skel_Start (· == "call tokens.get()")) = (stacksOf skel_Start (pre "call sf.runSession("))
    ∧ allInside skel_Start (pre "call sf.runSession(") (· == "for{") = true
    ∧ has skel_Start (pre "go sf.runSession") = false
    ∧ has skel_Start (· == "call tokens.ret()") = false := by
  simp only [skel_eval]
  decide +kernel

def early : List String :=
  skel_runSession.take ((skel_runSession.findIdx? (pre "call sf.makePeerConnectionFromOffer(")).getD 0)

def late : List String := after skel_runSession (pre "call sf.makePeerConnectionFromOffer(")

attribute [skel_eval] early.eq_unfold late.eq_unfold

/-- The stages of `runSession` in the order of `Stage`. -/
theorem runSession_stages :
    skel_runSession.head? = some "call broker.pollOffer(sid, sf.ProxyType, sf.RelayDomainNamePattern, sf.shutdown)"
    ∧ before skel_runSession (pre "call broker.pollOffer(") (pre "call url.Parse(relayURL)") = true
    ∧ before skel_runSession (pre "call url.Parse(relayURL)") (pre "call matcher.IsMember(") = true
    ∧ before skel_runSession (pre "call matcher.IsMember(") (pre "call sf.makePeerConnectionFromOffer(") = true
    ∧ before skel_runSession (pre "call sf.makePeerConnectionFromOffer(") (pre "call broker.sendAnswer(") = true
    ∧ before skel_runSession (pre "call broker.sendAnswer(") (· == "select{") = true
    ∧ selectSiblings skel_runSession (· == "recv dataChan") (· == "recv time.After(dataChannelTimeout)") = true
    ∧ count skel_runSession (· == "select{") = 1
    ∧ dataChannelTimeout > 0 := by
  simp only [skel_eval]
  decide +kernel

/-- The three early exits (`failed poll/parseURL/checkRelay`) happen before any peer connection exists; each
releases the slot directly, once, and returns. -/
theorem early_exits_release_once :
    count early (fun l => l.startsWith "if ") = 3
    ∧ count early (· == "call tokens.ret()") = 3
    ∧ count early (· == "return") = 3
    ∧ allInside early (· == "call tokens.ret()") (fun o => o.startsWith "if ") = true
    ∧ (stacksOf early (· == "call tokens.ret()")).all (fun st => st.length == 1) = true
    ∧ (stacksOf early (· == "call tokens.ret()")).map (fun st => st.map (·.1))
        = (stacksOf early (· == "return")).map (fun st => st.map (·.1))
    ∧ has early (pre "call release(") = false
    ∧ has early (pre "go ") = false := by
  simp only [skel_eval]
  decide +kernel

/-- **F11 repaired.** As soon as the `OnDataChannel` callback that starts the handler exists, nothing calls
`tokens.ret()` directly: all release sites that can run for one session share one `Once`
(`Exit.guarded`, `hRelease`). -/
theorem release_sites_share_one_once :
    -- no direct ret once the callback exists, neither in runSession nor in the handler
    has late (contains "tokens.ret") = false
    ∧ has skel_datachannelHandler (contains "tokens.ret") = false
    ∧ has skel_adaptor (contains "tokens.ret") = false
    ∧ has skel_makePeerConnectionFromOffer (contains "tokens.ret") = false
    -- the one Once-guarded release function, defined before the peer connection is made
    ∧ count skel_runSession (contains ".Do(tokens.ret)") = 1
    ∧ count early (contains ".Do(tokens.ret)") = 1
    ∧ blk early (· == "func{") = ["call once.Do(tokens.ret)"]
    ∧ count skel_runSession (· == "func{") = 1
    -- its three uses in runSession: two returning `if` blocks and the timeout arm, once each
    ∧ count late (· == "call release()") = 3
    ∧ (blk late (pre "if err != nil{")).filter (· == "call release()") = ["call release()"]
    ∧ (blk late (pre "if err != nil{")).getLast? = some "return"
    ∧ (blk (after late (pre "call broker.sendAnswer(")) (pre "if err != nil{")).filter (· == "call release()") = ["call release()"]
    ∧ (blk (after late (pre "call broker.sendAnswer(")) (pre "if err != nil{")).getLast? = some "return"
    ∧ (blk (after late (· == "recv time.After(dataChannelTimeout)")) (· == "do:")).filter (· == "call release()") = ["call release()"]
    ∧ has (blk (after late (· == "recv dataChan")) (· == "do:") |>.takeWhile (· != "case:")) (contains "release") = false
    -- the same function reaches the handler
    ∧ has early (· == "lit dataChannelHandlerWithRelayURL{RelayURL: relayURL, sf: sf, release: release}") = true
    ∧ skel_adaptor = ["call d.sf.datachannelHandler(conn, remoteAddr, d.RelayURL, d.release)"]
    ∧ count skel_datachannelHandler (contains "release") = 1
    ∧ (topLevel skel_datachannelHandler).contains "defer release()" = true := by
  simp only [skel_eval]
  decide +kernel

def isRelease (l : String) : Bool := l == "call release()" || l == "call tokens.ret()"

/-- `pc.Close()` precedes the release on the failed-answer exit and in the timeout arm (`pcClosed`). -/
theorem close_before_release :
    before (blk (after late (pre "call broker.sendAnswer(")) (pre "if err != nil{")) (· == "call pc.Close()") isRelease = true
    ∧ before (blk (after late (· == "recv time.After(dataChannelTimeout)")) (· == "do:")) (· == "call pc.Close()") isRelease = true := by
  simp only [skel_eval]
  decide +kernel

/-- The `OnDataChannel` callback closes `dataChan` and starts the handler in a goroutine of its own
(label `cbFire`: `cb := fired`, `h := running`); nothing else starts a handler. -/
theorem callback_spawns_handler :
    before skel_makePeerConnectionFromOffer (pre "call pc.OnDataChannel(") (· == "call close(dataChan)") = true
    ∧ before skel_makePeerConnectionFromOffer (· == "call close(dataChan)") (· == "go handler") = true
    ∧ count skel_makePeerConnectionFromOffer (pre "go ") = 1
    ∧ has skel_runSession (pre "go ") = false := by
  simp only [skel_eval]
  decide +kernel

/-- The handler releases on every way out: the release is deferred at its top level before the
relay is dialed; a failed dial returns, otherwise it runs the copy loop (label `hEnd`). -/
theorem handler_exits :
    before skel_datachannelHandler (fun l => l == "defer release()" || l == "defer tokens.ret()") (pre "call websocket.DefaultDialer.Dial(") = true
    ∧ blk (after skel_datachannelHandler (pre "call websocket.DefaultDialer.Dial(")) (pre "if err != nil{") = ["return"]
    ∧ before skel_datachannelHandler (pre "call websocket.DefaultDialer.Dial(") (pre "call copyLoop(") = true := by
  simp only [skel_eval]
  decide +kernel

/-- The timeout arm contains nothing it could wait on: the model's `lTimeout` is a single step that always
completes. -/
theorem timeout_arm_does_not_wait :
    after skel_runSession (· == "recv time.After(dataChannelTimeout)")
      = ["call time.After(dataChannelTimeout)", "do:", "call pc.Close()", "call release()", "}"] := by
  decide +kernel

end Snowflake.Tie.ProxyLib
