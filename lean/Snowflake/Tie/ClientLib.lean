import Snowflake.Generated.ClientLib
import Snowflake.Model.Peers
import Snowflake.Base.SkelStack
import Snowflake.Tie.SkelEval
/-!
Tie obligations for C15: semantic facts about the synchronisation skeletons regenerated from
`client/lib/peers.go`, `client/lib/snowflake.go` and `client/lib/webrtc.go` on which the labels of
`Model/Peers.lean` (with `Fix.all`) rely.  They are orderings, scopes and counts, not whole-list
equalities, so harmless edits keep them; an edit that moves the hand-over send out of its `select`,
drops the `Once`, or uses `c.pc` before the error check breaks exactly one of them.
-/
namespace Snowflake.Tie.ClientLib
open Snowflake.Skel Snowflake.Gen.ClientLib

def blk (sk : List String) (p : String → Bool) : List String := (blockOf sk p).getD []

/-- The hand-over channel is created with capacity `Tongue.GetMax()`: the model's single parameter
`max` is both the capacity check of `Collect` and the channel capacity. -/
theorem chan_capacity_is_max :
    has skel_NewPeers (· == "makechan cap=tongue.GetMax()") = true
    ∧ has skel_Collect (· == "call p.Tongue.GetMax()") = true := by decide +kernel

/-- `Collect` takes `collectLock` first and releases it only by the deferred `Unlock`: the lock is
held during the melt check, `Count`, `Catch` and the hand-over (labels `cCheck`, `cCatch`, `cSend` /
`cMeltArm` all run with `lock = some (.col c)`). -/
theorem collect_lock_scope :
    skel_Collect.head? = some "call p.collectLock.Lock()"
    ∧ (topLevel skel_Collect).contains "defer p.collectLock.Unlock()" = true
    ∧ count skel_Collect (contains "collectLock.Lock()") = 1
    ∧ count skel_Collect (pre "call p.collectLock.Unlock()") = 0 := by
  simp only [skel_eval]
  decide +kernel

/-- The order of `Collect` behind the labels `cCheck`, `cCatch`, `cSend`. -/
theorem collect_order :
    -- melt check first, non-blocking, returning
    before skel_Collect (· == "recv p.melt") (pre "call p.Count()") = true
    ∧ (blk skel_Collect (· == "select{")).contains "default:" = true
    ∧ (blk skel_Collect (· == "select{")).contains "return" = true
    -- count, capacity guard, catch
    ∧ before skel_Collect (pre "call p.Count()") (pre "if cnt >= capacity{") = true
    ∧ (blk skel_Collect (pre "if cnt >= capacity{")).getLast? = some "return"
    ∧ before skel_Collect (pre "if cnt >= capacity{") (pre "call p.Tongue.Catch()") = true
    ∧ count skel_Collect (pre "call p.Tongue.Catch()") = 1
    -- error guard between Catch and PushBack
    ∧ (blk (after skel_Collect (pre "call p.Tongue.Catch()")) (pre "if nil != err{")).getLast? = some "return"
    ∧ before (after skel_Collect (pre "call p.Tongue.Catch()")) (pre "if nil != err{") (pre "call p.activePeers.PushBack(") = true
    ∧ before skel_Collect (pre "call p.activePeers.PushBack(") (· == "send p.snowflakeChan") = true
    ∧ count skel_Collect (pre "call p.activePeers.PushBack(") = 1
    ∧ count skel_Collect (pre "send ") = 1 := by
  simp only [skel_eval]
  decide +kernel

/-- **F9 repaired**: the (only) hand-over send is the communication of a `select` arm whose sibling
arm receives from `p.melt`, and that sibling arm returns — so `End`, which closes `melt` *before* it
asks for `collectLock`, always releases a `Collect` blocked on a full channel (label `cMeltArm`). -/
theorem collect_handover_selects_on_melt :
    count skel_Collect (· == "send p.snowflakeChan") = 1
    ∧ allSelectSiblings skel_Collect (· == "send p.snowflakeChan") (· == "recv p.melt") = true
    ∧ ((stacksOf (after skel_Collect (pre "call p.activePeers.PushBack(")) (· == "return")).filterMap bodyOfSelect).length = 1 := by
  simp only [skel_eval]
  decide +kernel

/-- `Pop`: a closed channel returns (nil); a closed peer is skipped before the only other `return`
(labels `pRecv`, `pCheck`). -/
theorem pop_skips_closed :
    skel_Pop.head? = some "for{"
    ∧ allInside skel_Pop (· == "recv p.snowflakeChan") (· == "for{") = true
    ∧ blk skel_Pop (pre "if !ok{") = ["return"]
    ∧ blk skel_Pop (pre "if snowflake.Closed(){") = ["continue"]
    ∧ before skel_Pop (· == "recv p.snowflakeChan") (pre "if snowflake.Closed(){") = true
    ∧ count skel_Pop (· == "return") = 2
    ∧ (blk skel_Pop (· == "for{")).getLast? = some "return" := by
  simp only [skel_eval]
  decide +kernel

/-- `Count` = purge then length; the purge removes only peers whose `Closed()` is true. -/
theorem purge_removes_only_closed :
    skel_Count = ["call p.purgeClosedPeers()", "return"]
    ∧ count skel_purgeClosedPeers (pre "call p.activePeers.Remove(") = 1
    ∧ allInside skel_purgeClosedPeers (pre "call p.activePeers.Remove(") (· == "if conn.Closed(){") = true := by
  simp only [skel_eval]
  decide +kernel

/-- The statements `End` executes: the split-off body `end` if it exists, else the function literal
passed to `Once.Do`, else `End` itself. -/
def endBody : List String :=
  if skel_endBody != ["<missing>"] then skel_endBody
  else if has skel_End (· == "func{") then blk skel_End (· == "func{") else skel_End

/-- **F8 repaired**: `End` itself closes nothing outside a `sync.Once`: its top level has no
`close(…)`, no `Lock`, and does call `….Do(…)` (labels `eCall` / `eOnce`). -/
theorem end_once_guarded :
    has (topLevel skel_End) (fun l => l.startsWith "call " && contains ".Do(" l) = true
    ∧ has (topLevel skel_End) (pre "call close(") = false
    ∧ has (topLevel skel_End) (contains "Lock()") = false
    ∧ noneInside skel_End (pre "call close(") (fun o => o != "func{") = true := by
  simp only [skel_eval]
  decide +kernel

/-- Order inside `End`: `close(p.melt)` strictly before `collectLock.Lock()` (label `eMelt` before
`eLock` — this is what lets a blocked `Collect` go), the lock is released by the deferred `Unlock`,
`close(p.snowflakeChan)` and the closing of every active peer happen under the lock (`eCrit`). -/
theorem end_body_order :
    count endBody (· == "call close(p.melt)") = 1
    ∧ count endBody (· == "call close(p.snowflakeChan)") = 1
    ∧ before endBody (· == "call close(p.melt)") (· == "call p.collectLock.Lock()") = true
    ∧ before endBody (· == "call p.collectLock.Lock()") (· == "call close(p.snowflakeChan)") = true
    ∧ (topLevel endBody).contains "defer p.collectLock.Unlock()" = true
    ∧ count endBody (pre "call p.collectLock.Unlock()") = 0
    ∧ before endBody (· == "call close(p.snowflakeChan)") (· == "call conn.Close()") = true
    ∧ allInside endBody (· == "call conn.Close()") (· == "for{") = true
    ∧ noneInside endBody (· == "call conn.Close()") (pre "if ") = true := by
  simp only [skel_eval]
  decide +kernel

/-- `connectLoop`: `Collect()`, then a `select` between the reconnect timer (`continue`) and `Melted()`
(`return`), for ever (labels `lTimer`, `lMelted`). -/
theorem connectLoop_shape :
    skel_connectLoop.head? = some "for{"
    ∧ count skel_connectLoop (pre "call snowflakes.Collect()") = 1
    ∧ before skel_connectLoop (pre "call snowflakes.Collect()") (· == "select{") = true
    ∧ selectSiblings skel_connectLoop (· == "recv timer") (· == "recv snowflakes.Melted()") = true
    ∧ before skel_connectLoop (· == "recv timer") (· == "continue") = true
    ∧ before skel_connectLoop (· == "continue") (· == "recv snowflakes.Melted()") = true
    ∧ blk (after skel_connectLoop (· == "recv snowflakes.Melted()")) (· == "do:") = ["return"]
    ∧ ReconnectTimeout > 0 := by
  simp only [skel_eval]
  decide +kernel

/-- `SnowflakeConn.Close` calls `End` exactly once (an `End` goroutine of the model). -/
theorem close_calls_end :
    count skel_Close (· == "call conn.snowflakes.End()") = 1
    ∧ noneInside skel_Close (· == "call conn.snowflakes.End()") (fun _ => true) = true := by decide +kernel

/-- **F10 repaired**: in `connect` the error of `preparePeerConnection` is checked (and returned)
before the first use of `c.pc`; `preparePeerConnection` returns right after a failed
`NewPeerConnection`; the constructor closes the half-built peer and returns the error — so every
failure of peer construction is an `err` outcome of `Catch` (`Model.connect true`). -/
theorem connect_checks_error_first :
    skel_connect.head? = some "call c.preparePeerConnection(config)"
    ∧ before skel_connect (pre "if err != nil{") (pre "call c.pc.") = true
    ∧ (blk skel_connect (pre "if err != nil{")).getLast? = some "return"
    ∧ has (blk skel_connect (pre "if err != nil{")) (pre "call c.pc.") = false
    -- preparePeerConnection
    ∧ before skel_preparePeerConnection (pre "call api.NewPeerConnection(") (pre "if err != nil{") = true
    ∧ blk skel_preparePeerConnection (pre "if err != nil{") = ["return"]
    ∧ before skel_preparePeerConnection (pre "if err != nil{") (pre "call c.pc.") = true
    -- NewWebRTCPeerWithEvents / Catch
    ∧ blk (after skel_NewWebRTCPeerWithEvents (pre "call connection.connect(")) (pre "if err != nil{")
        = ["call connection.Close()", "return"]
    ∧ skel_Catch.head? = some "call NewWebRTCPeerWithEvents(w.webrtcConfig, w.BrokerChannel, w.eventLogger)" := by
  simp only [skel_eval]
  decide +kernel

/-- The remaining failure exits of `connect` are ordinary error returns (`afterPrepare`): after
`Negotiate`, after `SetRemoteDescription`, and the data-channel timeout arm. -/
theorem connect_failures_return :
    (blk (after skel_connect (pre "call broker.Negotiate(")) (pre "if err != nil{")).getLast? = some "return"
    ∧ (blk (after skel_connect (pre "call c.pc.SetRemoteDescription(")) (pre "if nil != err{")).getLast? = some "return"
    ∧ selectSiblings skel_connect (· == "recv c.open") (· == "recv time.After(DataChannelTimeout)") = true
    ∧ (after skel_connect (· == "recv time.After(DataChannelTimeout)")).contains "return" = true
    ∧ DataChannelTimeout > 0 := by
  simp only [skel_eval]
  decide +kernel

/-- A peer closes at most once (`sync.Once`), by closing its `closed` channel: `closedP` is a
monotone flag (label `peerClose`, and `eCrit` may close peers that are already closed). -/
theorem peer_close_once :
    skel_PeerClose.head? = some "call c.once.Do(func)"
    ∧ allInside skel_PeerClose (· == "call close(c.closed)") (· == "func{") = true := by decide +kernel

end Snowflake.Tie.ClientLib
