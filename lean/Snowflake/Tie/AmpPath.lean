import Snowflake.Generated.AmpPath
import Snowflake.Model.AmpPath
import Snowflake.Base.Skel
import Snowflake.Tie.SkelEval
/-!
Tie obligations for C11: constants and the statement order (regenerated skeletons) of `common/amp/path.go`,
`cache.go`, `broker/amp.go`, `broker/http.go clientOffers`, `client/lib/rendezvous_http.go`,
`rendezvous_ampcache.go` and `BrokerChannel.Negotiate` are the ones the model was written against.
-/
namespace Snowflake.Tie.AmpPath
open Snowflake.AmpPath Snowflake.Skel

theorem clientReadLimit_tie : Gen.AmpPath.clientReadLimit = (clientReadLimit : Int) := rfl
theorem brokerReadLimit_tie : Gen.AmpPath.brokerReadLimit = (brokerReadLimit : Int) := rfl

/-- `EncodePath` encodes a random cache breaker and the data with the same `b64` helper;
`DecodePath` looks for the *last* slash (not the first) and decodes what follows with the raw URL
alphabet; the three error returns precede resp. surround it as in the model. -/
theorem path_shape :
    count Gen.AmpPath.skel_EncodePath (pre "call b64(") = 2
    ∧ before Gen.AmpPath.skel_EncodePath (pre "call rand.Read(cacheBreaker[:])") (pre "call b64(cacheBreaker[:])") = true
    ∧ count Gen.AmpPath.skel_DecodePath (pre "call strings.LastIndexByte(rest, '/')") = 1
    ∧ count Gen.AmpPath.skel_DecodePath (pre "call strings.IndexByte(") = 0
    ∧ (blockOf Gen.AmpPath.skel_DecodePath (pre "if len(path) < 1{")).map (fun b => b.getLast? == some "return") = some true
    ∧ before Gen.AmpPath.skel_DecodePath (pre "case '0':") (pre "call strings.LastIndexByte(rest, '/')") = true
    ∧ (blockOf Gen.AmpPath.skel_DecodePath (pre "if i == -1{")).map (fun b => b.getLast? == some "return") = some true
    ∧ before Gen.AmpPath.skel_DecodePath (pre "if i == -1{") (pre "call base64.RawURLEncoding.DecodeString(rest[i+1:])") = true
    ∧ before Gen.AmpPath.skel_DecodePath (pre "call base64.RawURLEncoding.DecodeString(rest[i+1:])") (pre "case default:") = true := by
  simp only [skel_eval]
  decide +kernel

/-- `ampClientOffers`: `i.ClientOffers` is called only in the branch where `DecodePath` succeeded, the fixed
error response is built in the other; an error after that gives status 500; otherwise status 200 and the
response goes through a new armor encoder that is closed on return. -/
theorem ampClientOffers_shape :
    before Gen.AmpPath.skel_ampClientOffers (pre "call strings.TrimPrefix(r.URL.Path, \"/amp/client/\")") (pre "call amp.DecodePath(path)") = true
    ∧ count Gen.AmpPath.skel_ampClientOffers (pre "call amp.DecodePath(") = 1
    ∧ count Gen.AmpPath.skel_ampClientOffers (pre "call i.ClientOffers(") = 1
    ∧ blockOf Gen.AmpPath.skel_ampClientOffers (pre "if err == nil{") = some ["call i.ClientOffers(arg, &response)"]
    ∧ before Gen.AmpPath.skel_ampClientOffers (pre "call amp.DecodePath(path)") (pre "if err == nil{") = true
    ∧ before Gen.AmpPath.skel_ampClientOffers (pre "}else{") (pre "call (&messages.ClientPollResponse{ Error: \"cannot decode URL path\"") = true
    ∧ count Gen.AmpPath.skel_ampClientOffers (pre "}else{") = 1
    ∧ before Gen.AmpPath.skel_ampClientOffers (pre "call i.ClientOffers(") (pre "call w.WriteHeader(http.StatusOK)") = true
    ∧ before Gen.AmpPath.skel_ampClientOffers (pre "call w.WriteHeader(http.StatusOK)") (pre "call amp.NewArmorEncoder(w)") = true
    ∧ before Gen.AmpPath.skel_ampClientOffers (pre "call amp.NewArmorEncoder(w)") (pre "defer enc.Close()") = true
    ∧ before Gen.AmpPath.skel_ampClientOffers (pre "defer enc.Close()") (pre "call enc.Write(response)") = true
    ∧ count Gen.AmpPath.skel_ampClientOffers (pre "call enc.Write(") = 1
    ∧ ((Gen.AmpPath.skel_ampClientOffers.drop ((idx Gen.AmpPath.skel_ampClientOffers (pre "call amp.DecodePath(")).getD 0)).filter (pre "call w.WriteHeader("))
        = ["call w.WriteHeader(http.StatusInternalServerError)", "call w.WriteHeader(http.StatusOK)"] := by
  simp only [skel_eval]
  decide +kernel

/-- POST `clientOffers`: the body is read through `MaxBytesReader(…, readLimit)` (failure: 400); the
legacy shim is guarded by a leading `{`; `i.ClientOffers` is called exactly once; its error gives 500. -/
theorem clientOffers_shape :
    before Gen.AmpPath.skel_clientOffers (pre "call http.MaxBytesReader(w, r.Body, readLimit)") (pre "call i.ClientOffers(") = true
    ∧ count Gen.AmpPath.skel_clientOffers (pre "call i.ClientOffers(") = 1
    ∧ before Gen.AmpPath.skel_clientOffers (pre "if len(body) > 0 && body[0] == '{'{") (pre "call i.ClientOffers(") = true
    ∧ before Gen.AmpPath.skel_clientOffers (pre "call i.ClientOffers(") (pre "call w.Write(response)") = true
    ∧ Gen.AmpPath.skel_clientOffers.getLast? = some "call w.Write(response)" := by
  simp only [skel_eval]
  decide +kernel

/-- `CacheURL`: the guards in the model's order; `domainPrefix`: the basic result only when it is at most 63
bytes long, else the fallback. -/
theorem cacheURL_shape :
    (Gen.AmpPath.skel_CacheURL.filter (pre "if ")).take 9 =
      ["if cacheURL.Port() != \"\"{", "if contentType == \"\"{", "if pubURL.User != nil{", "if port != \"\"{",
       "if !((pubURL.Scheme == \"http\" && port == \"80\") || (pubURL.Scheme == \"https\" && port == \"443\")){",
       "if pubURL.Hostname() == \"\"{", "if err != nil{", "if cacheURL.RawQuery != \"\"{", "if cacheURL.Fragment != \"\"{"]
    ∧ before Gen.AmpPath.skel_CacheURL (pre "if contentType == \"\"{") (pre "switch pubURL.Scheme{") = true
    ∧ before Gen.AmpPath.skel_CacheURL (pre "switch pubURL.Scheme{") (pre "if pubURL.User != nil{") = true
    ∧ before Gen.AmpPath.skel_CacheURL (pre "call url.PathEscape(pubURL.Hostname())") (pre "call path.Join(pathComponents)") = true
    ∧ count Gen.AmpPath.skel_CacheURL (pre "call fmt.Errorf(") = 7
    ∧ Gen.AmpPath.skel_domainPrefix =
        ["call domainPrefixBasic(domain)", "if err == nil && len(prefix) <= 63{", "return", "}",
         "call domainPrefixFallback(domain)", "return"]
    ∧ (Gen.AmpPath.skel_domainPrefixBasic.filter (pre "call ")) =
        ["call idna.ToUnicode(domain)", "call strings.Replace(prefix, \"-\", \"--\", -1)",
         "call strings.Replace(prefix, \".\", \"-\", -1)", "call idna.ToASCII(prefix)"] := by
  simp only [skel_eval]
  decide +kernel

/-- Both `Exchange` methods: with a front the original URL host goes to `req.Host` *before* the URL
host is replaced by the front; the status check (returning an error) precedes any read of the body;
HTTP reads through `limitedRead(resp.Body, readLimit)`, AMP through `io.LimitReader(resp.Body,
readLimit + 1)` into the armor decoder and checks `N == 0` afterwards. -/
theorem exchange_shape :
    (blockOf Gen.AmpPath.skel_httpExchange (pre "if r.front != \"\"{")).map
        (fun b => b == ["assign req.Host = req.URL.Host", "assign req.URL.Host = r.front"]) = some true
    ∧ (blockOf Gen.AmpPath.skel_ampExchange (pre "if r.front != \"\"{")).map
        (fun b => b == ["assign req.Host = req.URL.Host", "assign req.URL.Host = r.front"]) = some true
    ∧ before Gen.AmpPath.skel_httpExchange (pre "if r.front != \"\"{") (pre "call r.transport.RoundTrip(req)") = true
    ∧ before Gen.AmpPath.skel_ampExchange (pre "if r.front != \"\"{") (pre "call r.transport.RoundTrip(req)") = true
    ∧ (blockOf Gen.AmpPath.skel_httpExchange (pre "if resp.StatusCode != http.StatusOK{")).map
        (fun b => b == ["call errors.New(brokerErrorUnexpected)", "return"]) = some true
    ∧ before Gen.AmpPath.skel_httpExchange (pre "if resp.StatusCode != http.StatusOK{") (pre "call limitedRead(resp.Body, readLimit)") = true
    ∧ (blockOf Gen.AmpPath.skel_ampExchange (pre "if resp.StatusCode != http.StatusOK{")).map
        (fun b => b == ["call errors.New(brokerErrorUnexpected)", "return"]) = some true
    ∧ before Gen.AmpPath.skel_ampExchange (pre "if resp.StatusCode != http.StatusOK{") (pre "call resp.Location()") = true
    ∧ before Gen.AmpPath.skel_ampExchange (pre "call resp.Location()") (pre "call io.LimitReader(resp.Body, readLimit + 1)") = true
    ∧ before Gen.AmpPath.skel_ampExchange (pre "call io.LimitReader(resp.Body, readLimit + 1)") (pre "call amp.NewArmorDecoder(lr)") = true
    ∧ before Gen.AmpPath.skel_ampExchange (pre "call ioutil.ReadAll(dec)") (pre "if lr.(*io.LimitedReader).N == 0{") = true
    ∧ before Gen.AmpPath.skel_ampExchange (pre "call amp.EncodePath(encPollReq)") (pre "call amp.CacheURL(reqURL, r.cacheURL, \"c\")") = true
    ∧ Gen.AmpPath.skel_limitedRead =
        ["call ioutil.ReadAll(&io.LimitedReader{R: r, N: limit + 1})", "if err != nil{", "return", "}else{",
         "if int64(len(p)) == limit+1{", "return", "}", "}", "return"] := by
  simp only [skel_eval]
  decide +kernel

/-- `Negotiate` returns at once when `Exchange` reports an error: the returned bytes are decoded only
on the error-free path (so truncated data handed back with `ErrUnexpectedEOF` is never used). -/
theorem negotiate_drops_data_on_error :
    count Gen.AmpPath.skel_Negotiate (pre "call bc.Rendezvous.Exchange(") = 1
    ∧ ((Gen.AmpPath.skel_Negotiate.drop ((idx Gen.AmpPath.skel_Negotiate (pre "call bc.Rendezvous.Exchange(")).getD 0)).take 5)
        = ["call bc.Rendezvous.Exchange(encReq)", "if err != nil{", "return", "}", "call messages.DecodeClientPollResponse(encResp)"] := by
  simp only [skel_eval]
  decide +kernel

end Snowflake.Tie.AmpPath
