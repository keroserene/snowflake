import Snowflake.Generated.Safelog
import Snowflake.Model.Safelog
import Snowflake.Base.Skel
import Snowflake.Tie.SkelEval
/-!
Tie obligations for C07: facts about the expressions and skeletons regenerated from
`common/safelog/log.go` that the theorems of `Props/C07.lean` rest on.  They are evaluations of structural
analyses, so they survive edits of the address patterns that keep the analysed facts true.
-/
namespace Snowflake.Tie.Safelog
open Snowflake.Rx Snowflake.Safelog

theorem compiled_patterns :
    Gen.Safelog.scrubberPattern0_count = 1 ∧ Gen.Safelog.scrubberPattern0 = Gen.Safelog.fullAddrPattern
    ∧ Gen.Safelog.addressRegexp_count = 1 ∧ Gen.Safelog.addressRegexp = Gen.Safelog.addressPattern :=
  ⟨rfl, rfl, rfl, rfl⟩

/-- `fullAddrPattern` is `(^|\s|[^\w:])` · `addressPattern` · `(\s|(:\s)|[^\w:]|$)` (up to captures and the
bracketing of the concatenation). -/
theorem full_is_delim_addr_delim :
    factors Gen.Safelog.fullAddrPattern = delimL :: (factors Gen.Safelog.addressPattern ++ [delimR]) := by
  decide +kernel

/-- so what `addressPattern` matches does not depend on the surrounding text -/
theorem address_anchor_free : anchorFree Gen.Safelog.addressPattern = true := by decide +kernel

/-- Every match of `addressPattern` contains three dots, or five colons, or a double colon (weight 2 per dot,
3 per colon), while the placeholder weighs 0. -/
theorem address_heavy : 6 ≤ minWeight wt Gen.Safelog.addressPattern := by decide +kernel

/-- an address match never contains a newline -/
theorem address_avoids_newline : avoids 10 Gen.Safelog.addressPattern = true := by decide +kernel

/-- `addressPattern` has the shape the coverage theorems are proved about (`addressShapeN n`), where `n` is the
repeat bound in `ipv6Compressed`.  The evaluation searches the bound below 9, so the obligation survives a
change of the bound. -/
theorem address_shape : ∃ n, 5 ≤ n ∧ eraseCaps Gen.Safelog.addressPattern = addressShapeN n :=
  have h : ∃ n, n < 9 ∧ 5 ≤ n ∧ eraseCaps Gen.Safelog.addressPattern = addressShapeN n := by decide +kernel
  h.imp fun _ h => h.2

/-- `Scrub` repeats the replacement pass under `pattern.Match` and replaces by the literal placeholder. -/
theorem scrub_skeleton :
    ((Skel.blockOf Gen.Safelog.skel_Scrub (· == "for{")).map fun b =>
        Skel.before b (Skel.pre "call pattern.Match(scrubbedBytes)") (Skel.pre "call pattern.ReplaceAllFunc(scrubbedBytes, func)")
        && b.contains "call addressRegexp.ReplaceAll(b, []byte(\"[scrubbed]\"))") = some true
    ∧ Skel.count Gen.Safelog.skel_Scrub (Skel.pre "call pattern.ReplaceAllFunc(") = 1
    ∧ Gen.Safelog.skel_Scrub.getLast? = some "return" := by
  simp only [skel_eval]
  decide +kernel

/-- `Write` takes the lock first and releases it on return; inside its loop it cuts at the *first* newline
(`IndexByte`, never `LastIndexByte`), writes the scrubbed line and leaves the loop when no newline is left. -/
theorem write_skeleton :
    Gen.Safelog.skel_Write.head? = some "call ls.Lock()"
    ∧ Gen.Safelog.skel_Write.contains "defer ls.Unlock()" = true
    ∧ Skel.count Gen.Safelog.skel_Write (Skel.pre "call bytes.LastIndexByte(") = 0
    ∧ ((Skel.blockOf Gen.Safelog.skel_Write (· == "for{")).map fun b =>
        Skel.before b (Skel.pre "call bytes.IndexByte(ls.buffer, '\\n')") (Skel.pre "call ls.Output.Write(Scrub(")
        && Skel.before b (Skel.pre "if i == -1{") (Skel.pre "call ls.Output.Write(Scrub(")
        && Skel.count b (Skel.pre "call ls.Output.Write(") == 1) = some true := by
  simp only [skel_eval]
  decide +kernel

end Snowflake.Tie.Safelog
