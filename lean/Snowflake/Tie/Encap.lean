import Snowflake.Generated.Encap
import Snowflake.Model.Encap
/-!
Tie obligations for C09: the definitions regenerated from
`/repo/common/encapsulation/encapsulation.go` equal the arithmetic model the theorems are about.
-/
namespace Snowflake.Tie.Encap
open Snowflake.Encap

/-- `len(paddingBuffer)` -/
theorem paddingBufferLen_tie : Gen.Encap.paddingBufferLen = (paddingBufferLen : Int) := rfl

theorem or192 : ∀ x : Fin 64, (192 : UInt8) ||| UInt8.ofNat x.val = UInt8.ofNat (128 + 64 + x.val) := by decide
theorem or128 : ∀ x : Fin 128, (128 : UInt8) ||| UInt8.ofNat x.val = UInt8.ofNat (128 + x.val) := by decide
theorem or64 : ∀ x : Fin 64, (64 : UInt8) ||| UInt8.ofNat x.val = UInt8.ofNat (64 + x.val) := by decide

theorem and63 (x : Nat) : x &&& 63 = x % 64 := Nat.and_two_pow_sub_one_eq_mod x 6
theorem and127 (x : Nat) : x &&& 127 = x % 128 := Nat.and_two_pow_sub_one_eq_mod x 7
theorem shr7 (x : Nat) : x >>> 7 = x / 128 := Nat.shiftRight_eq_div_pow x 7
theorem shr14 (x : Nat) : x >>> 14 = x / 16384 := Nat.shiftRight_eq_div_pow x 14

theorem dataPrefix_tie (n : Nat) : Gen.Encap.dataPrefixForLength n = dataPrefix n := by
  unfold Gen.Encap.dataPrefixForLength dataPrefix prefixFor
  simp only [Nat.shiftRight_zero, and63, and127, shr7, shr14, beq_iff_eq]
  by_cases h1 : n < 64
  · have e : n % 64 = n := by omega
    have := or128 ⟨n, by omega⟩
    simp [h1, e, this]
  · have e : ¬ (n % 64 = n) := by omega
    simp only [h1, e, if_false]
    by_cases h2 : n < 8192
    · have e2 : n / 128 % 64 = n / 128 := by omega
      have := or192 ⟨n / 128, by omega⟩
      simp [h2, e2, this]
    · have e2 : ¬ (n / 128 % 64 = n / 128) := by omega
      simp only [h2, e2, if_false]
      by_cases h3 : n < 1048576
      · have e3 : n / 16384 % 64 = n / 16384 := by omega
        have t1 := or192 ⟨n / 16384, by omega⟩
        have t2 := or128 ⟨n / 128 % 128, by omega⟩
        simp [h3, e3, t1, t2]
      · have e3 : ¬ (n / 16384 % 64 = n / 16384) := by omega
        simp [h3, e3]

/-- The prefix `switch` of `WritePadding`, followed by the zero bytes it announces, for every block size the
loop can produce (1 ≤ p ≤ 1024). -/
theorem paddingSwitch_tie (p : Nat) (h1 : 1 ≤ p) (h2 : p ≤ 1024) :
    (Gen.Encap.paddingSwitch p).2 ++ List.replicate (Gen.Encap.paddingSwitch p).1 0
      = paddingBlock p := by
  unfold Gen.Encap.paddingSwitch paddingBlock
  simp only [Nat.shiftRight_zero, and63, and127, shr7, shr14, beq_iff_eq]
  by_cases c1 : p - 1 < 64
  · have e : (p - 1) % 64 = p - 1 := by omega
    simp [c1, e]
  · have e : ¬ ((p - 1) % 64 = p - 1) := by omega
    have c2 : p - 2 < 8192 := by omega
    have e2 : (p - 2) / 128 % 64 = (p - 2) / 128 := by omega
    have := or64 ⟨(p - 2) / 128, by omega⟩
    simp [c1, e, c2, e2, this]

end Snowflake.Tie.Encap
