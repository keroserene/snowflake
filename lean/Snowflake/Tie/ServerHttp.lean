import Snowflake.Generated.ServerHttp
import Snowflake.Model.Server
import Snowflake.Tie.SkelEval
/-!
Tie obligations for the server carrier-layer model (C05, C01): token and queue size are the source's
constants; the regenerated skeletons of `ServeHTTP`, `turbotunnelMode` and the queue operations are the
ones the model `Snowflake.Model.Server` was written against (which ClientID variable tags upstream
packets and selects the downstream queue, `io.ReadFull` sizes, token comparison, non-blocking sends).
-/
namespace Snowflake.Tie.ServerHttp
open Snowflake.Gen

/-- the first 8 bytes are read with io.ReadFull and compared with turbotunnel.Token; only on equality turbotunnelMode runs, otherwise the handler returns and the deferred conn.Close() closes the carrier (labels hStep in state token). -/
def expected_ServeHTTP : List String := [
  "call upgrader.Upgrade(w, r, nil)",
  "if err != nil{",
  "return",
  "}",
  "call websocketconn.New(ws)",
  "defer conn.Close()",
  "assign clientIPParam := r.URL.Query().Get(\"client_ip\")",
  "call clientAddr(clientIPParam)",
  "assign addr := clientAddr(clientIPParam)",
  "call io.ReadFull(conn, token[:])",
  "if err != nil{",
  "return",
  "}",
  "switch{",
  "case bytes.Equal(token[:], turbotunnel.Token[:]):",
  "call turbotunnelMode(conn, addr, handler.pconn)",
  "case default:",
  "return",
  "}",
  "if err != nil{",
  "return",
  "}"
]

theorem skel_ServeHTTP_tie : ServerHttp.skel_ServeHTTP = expected_ServeHTTP := rfl

/-- the ClientID is read with io.ReadFull (hStep in state cid); the read loop passes every chunk of ReadData to QueueIncoming *with that same clientID* (hStep in state run); the write loop takes packets from OutgoingQueue *of that same clientID* and frames each with WriteData + Flush (wStep); either loop ending ends the other. -/
def expected_turbotunnelMode : List String := [
  "call io.ReadFull(conn, clientID[:])",
  "if err != nil{",
  "return",
  "}",
  "call clientIDAddrMap.Set(clientID, addr)",
  "call wg.Add(2)",
  "makechan cap=0",
  "go{",
  "defer wg.Done()",
  "defer close(done)",
  "for{",
  "call encapsulation.ReadData(conn)",
  "if err != nil{",
  "return",
  "}",
  "call pconn.QueueIncoming(p, clientID)",
  "}",
  "}",
  "go{",
  "defer wg.Done()",
  "defer conn.Close()",
  "for{",
  "select{",
  "case:",
  "recv done",
  "do:",
  "return",
  "case:",
  "recv pconn.OutgoingQueue(clientID)",
  "call pconn.OutgoingQueue(clientID)",
  "do:",
  "if !ok{",
  "return",
  "}",
  "call encapsulation.WriteData(bw, p)",
  "if err == nil{",
  "call bw.Flush()",
  "}",
  "if err != nil{",
  "return",
  "}",
  "}",
  "}",
  "}",
  "call wg.Wait()",
  "return"
]

theorem skel_turbotunnelMode_tie : ServerHttp.skel_turbotunnelMode = expected_turbotunnelMode := rfl

/-- copy, then non-blocking send on the shared receive queue (dropped when full). -/
def expected_QueueIncoming : List String := [
  "select{",
  "case:",
  "recv c.closed",
  "do:",
  "return",
  "default:",
  "do:",
  "}",
  "call copy(buf, p)",
  "select{",
  "case:",
  "send c.recvQueue",
  "do:",
  "default:",
  "do:",
  "}"
]

theorem skel_QueueIncoming_tie : ServerHttp.skel_QueueIncoming = expected_QueueIncoming := rfl

/-- copy, then `trySend` of the copy to the client map (kcpWrite). -/
def expected_WriteTo : List String := [
  "select{",
  "case:",
  "recv c.closed",
  "do:",
  "return",
  "default:",
  "do:",
  "}",
  "call copy(buf, p)",
  "call c.clients.trySend(addr, buf)",
  "return"
]

theorem skel_WriteTo_tie : ServerHttp.skel_WriteTo = expected_WriteTo := rfl

/-- `trySend`: under the client map's lock, a non-blocking send on the per-address send queue (dropped when
full); the lock also orders the send with the sweep that closes expired queues. -/
def expected_trySend : List String := [
  "call m.lock.Lock()",
  "defer m.lock.Unlock()",
  "select{",
  "case:",
  "send m.inner.SendQueue(addr, time.Now())",
  "do:",
  "return",
  "default:",
  "do:",
  "return",
  "}"
]

theorem skel_trySend_tie : ServerHttp.skel_trySend = expected_trySend := rfl

/-- the per-address queue of the client map. -/
def expected_OutgoingQueue : List String := [
  "call c.clients.SendQueue(addr)",
  "return c.clients.SendQueue(addr)"
]

theorem skel_OutgoingQueue_tie : ServerHttp.skel_OutgoingQueue = expected_OutgoingQueue := rfl

/-- the token of the model's non-vacuity example -/
theorem token_tie : ServerHttp.Token = [0x12, 0x93, 0x60, 0x5d, 0x27, 0x81, 0x75, 0xf5] ∧ ServerHttp.Token.length = 8 := by
  decide

theorem queueSize_tie : ServerHttp.queueSize = 2048 := rfl

/-- One variable `clientID` is read from the carrier, tags `QueueIncoming` and keys `OutgoingQueue`. -/
theorem same_clientID_variable :
    ServerHttp.skel_turbotunnelMode.contains "call io.ReadFull(conn, clientID[:])" = true
    ∧ ServerHttp.skel_turbotunnelMode.contains "call pconn.QueueIncoming(p, clientID)" = true
    ∧ ServerHttp.skel_turbotunnelMode.contains "call pconn.OutgoingQueue(clientID)" = true
    ∧ (ServerHttp.skel_turbotunnelMode.filter (fun l => l.startsWith "call pconn.")).length = 2 := by
  simp only [skel_eval]
  decide +kernel

end Snowflake.Tie.ServerHttp
